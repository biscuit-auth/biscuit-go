/-
Proofs/Heap — for C08, C19, C03Heap. Two specifications carry everything. `AppSpec` says what
a run of appends to one slice does: the result reads the old contents followed by the new
elements; every other slice, and every prefix of the slice itself, reads as before; the writes go
to the slice's own array or to fresh arrays. `StepOK` says the same of one step of the family
machine with the repaired `Clone`, relative to the ownership invariant `Owned`: the invariant is
kept, headers stay, only the acting builder's array (`target`) and fresh arrays are written.
-/
import BiscuitModel.Model.Heap

namespace Biscuit.Heap

variable {α : Type}

theorem take_succ_set {β : Type} {l : List β} {i : Nat} (x : β) (h : i < l.length) :
    (l.set i x).take (i + 1) = l.take i ++ [x] := by
  rw [List.take_add_one, List.take_set_of_le (Nat.le_refl i), List.getElem?_set_self h]
  rfl

theorem set_of_getElem? {β : Type} {l : List β} {i : Nat} {v : β} (h : l[i]? = some v) :
    l.set i v = l := by
  obtain ⟨hi, rfl⟩ := List.getElem?_eq_some_iff.mp h
  exact List.set_getElem_self hi

/-- Setting a cell replaces one element: what is left is a sublist, and the new element sits
in its middle. -/
theorem nodup_set_of_not_mem {β : Type} {l : List β} {i : Nat} {v : β} (hn : l.Nodup)
    (hv : v ∉ l) : (l.set i v).Nodup := by
  rw [List.set_eq_take_append_cons_drop]
  split
  · rw [List.perm_middle.nodup_iff, ← List.eraseIdx_eq_take_drop_succ, List.nodup_cons]
    exact ⟨fun hm => hv ((List.eraseIdx_sublist l i).subset hm), hn.sublist (List.eraseIdx_sublist l i)⟩
  · exact hn

theorem map_nodup_ne {β γ : Type} {f : β → γ} {l : List β} (hn : (l.map f).Nodup) {i j : Nat}
    {a b : β} (ha : l[i]? = some a) (hb : l[j]? = some b) (hij : i ≠ j) : f a ≠ f b := by
  intro he
  have hi : i < (l.map f).length := by
    rw [List.length_map]
    exact (List.getElem?_eq_some_iff.mp ha).1
  have : (l.map f)[i]? = (l.map f)[j]? := by
    rw [List.getElem?_map, List.getElem?_map, ha, hb]
    simp [he]
  exact hij ((List.getElem?_inj hi hn).mp this)

theorem getD_set_self {h : Heap α} {i : Nat} (a : List α) (hi : i < h.length) :
    (h.set i a).getD i [] = a := by
  simp [List.getD_eq_getElem?_getD, hi]

theorem getD_set_ne {h : Heap α} {i j : Nat} (a : List α) (hij : i ≠ j) :
    (h.set i a).getD j [] = h.getD j [] := by
  simp [List.getD_eq_getElem?_getD, List.getElem?_set_ne hij]

theorem getD_append_left {h : Heap α} {j : Nat} (a : Heap α) (hj : j < h.length) :
    (h ++ a).getD j [] = h.getD j [] := by
  simp [List.getD_eq_getElem?_getD, List.getElem?_append_left hj]

theorem getD_append_length (h : Heap α) (a : List α) : (h ++ [a]).getD h.length [] = a := by
  simp [List.getD_eq_getElem?_getD]

theorem getD_of_length_le {h : Heap α} {i : Nat} (hi : h.length ≤ i) : h.getD i [] = [] := by
  simp [List.getD_eq_getElem?_getD, List.getElem?_eq_none hi]

/-- A slice is valid: its array is allocated and its length within capacity. -/
def Valid (h : Heap α) (s : Slice) : Prop := s.arr < h.length ∧ s.len ≤ cap h s

theorem length_read {h : Heap α} {s : Slice} (hl : s.len ≤ cap h s) : (read h s).length = s.len := by
  unfold read
  rw [List.length_take]
  exact Nat.min_eq_left hl

theorem append_inplace (grow : Nat → Nat) (pad : α) (h : Heap α) (s : Slice) (x : α)
    (hc : s.len < cap h s) :
    append grow pad h s x =
      (h.set s.arr ((h.getD s.arr []).set s.len x), { s with len := s.len + 1 },
        [{ arr := s.arr, idx := s.len, write := true }]) := by
  unfold append
  rw [if_pos hc]

theorem append_realloc (grow : Nat → Nat) (pad : α) (h : Heap α) (s : Slice) (x : α)
    (hc : ¬ s.len < cap h s) :
    append grow pad h s x =
      (h ++ [read h s ++ [x] ++ List.replicate (grow s.len - (s.len + 1)) pad],
        { arr := h.length, len := s.len + 1 },
        (List.range (s.len + 1)).map fun i => { arr := h.length, idx := i, write := true }) := by
  unfold append
  rw [if_neg hc]

/-- From heap `h` and slice `s`, appending `xs` gave heap `h'`, slice `s'`, and extended
the write log from `w0` to `w`. -/
structure AppSpec (h : Heap α) (s : Slice) (xs : List α) (w0 : List Access)
    (h' : Heap α) (s' : Slice) (w : List Access) : Prop where
  len_le : h.length ≤ h'.length
  valid : Valid h' s'
  read_self : read h' s' = read h s ++ xs
  arr : (s'.arr = s.arr ∧ s.len ≤ s'.len) ∨ h.length ≤ s'.arr
  frame : ∀ t : Slice, t.arr < h.length → (t.arr ≠ s.arr ∨ t.len ≤ s.len) → read h' t = read h t
  cap_eq : ∀ t : Slice, t.arr < h.length → cap h' t = cap h t
  writes : ∀ a ∈ w, a ∈ w0 ∨ (a.write = true ∧ (a.arr = s.arr ∨ h.length ≤ a.arr))

theorem AppSpec.refl {h : Heap α} {s : Slice} (hv : Valid h s) (w0 : List Access) :
    AppSpec h s [] w0 h s w0 where
  len_le := Nat.le_refl _
  valid := hv
  read_self := by simp
  arr := Or.inl ⟨rfl, Nat.le_refl _⟩
  frame := fun _ _ _ => rfl
  cap_eq := fun _ _ => rfl
  writes := fun _ ha => Or.inl ha

theorem AppSpec.trans {h h1 h2 : Heap α} {s s1 s2 : Slice} {xs ys : List α}
    {w0 w1 w2 : List Access} (a : AppSpec h s xs w0 h1 s1 w1) (b : AppSpec h1 s1 ys w1 h2 s2 w2) :
    AppSpec h s (xs ++ ys) w0 h2 s2 w2 where
  len_le := Nat.le_trans a.len_le b.len_le
  valid := b.valid
  read_self := by rw [b.read_self, a.read_self, List.append_assoc]
  arr := by
    have h1 := a.arr; have h2 := b.arr; have h3 := a.len_le
    omega
  frame := by
    intro t ht hc
    have h1 := a.arr
    rw [b.frame t (Nat.lt_of_lt_of_le ht a.len_le) (by omega), a.frame t ht hc]
  cap_eq := by
    intro t ht
    rw [b.cap_eq t (Nat.lt_of_lt_of_le ht a.len_le), a.cap_eq t ht]
  writes := by
    intro e he
    rcases b.writes e he with he | ⟨hw, he⟩
    · exact a.writes e he
    · refine Or.inr ⟨hw, ?_⟩
      have h1 := a.arr; have h3 := a.len_le
      omega

theorem append_spec (grow : Nat → Nat) (hg : ∀ n, grow n > n) (pad : α) {h : Heap α} {s : Slice}
    (hv : Valid h s) (x : α) (w0 : List Access) :
    AppSpec h s [x] w0 (append grow pad h s x).1 (append grow pad h s x).2.1
      (w0 ++ (append grow pad h s x).2.2) := by
  obtain ⟨hs, hl⟩ := hv
  by_cases hc : s.len < cap h s
  · rw [append_inplace grow pad h s x hc]
    have hc' : s.len < (h.getD s.arr []).length := hc
    refine ⟨by simp, ⟨by simpa using hs, ?_⟩, ?_, Or.inl ⟨rfl, Nat.le_succ _⟩, ?_, ?_, ?_⟩
    · show s.len + 1 ≤ cap _ _
      unfold cap
      simp only [getD_set_self _ hs, List.length_set]
      exact hc
    · show read _ _ = _
      unfold read
      simp only [getD_set_self _ hs]
      exact take_succ_set x hc'
    · intro t _ htc
      unfold read
      by_cases hts : t.arr = s.arr
      · have : t.len ≤ s.len := by omega
        rw [hts, getD_set_self _ hs, List.take_set_of_le this]
      · rw [getD_set_ne _ (Ne.symm hts)]
    · intro t _
      unfold cap
      by_cases hts : t.arr = s.arr
      · rw [hts, getD_set_self _ hs, List.length_set]
      · rw [getD_set_ne _ (Ne.symm hts)]
    · intro a ha
      refine (List.mem_append.mp ha).imp_right fun ha => ?_
      rw [List.mem_singleton.mp ha]
      exact ⟨rfl, Or.inl rfl⟩
  · rw [append_realloc grow pad h s x hc]
    have hlen : (read h s).length = s.len := length_read hl
    refine ⟨by simp, ⟨by simp, ?_⟩, ?_, Or.inr (Nat.le_refl _), ?_, ?_, ?_⟩
    · show s.len + 1 ≤ cap _ _
      unfold cap
      simp only [getD_append_length, List.length_append, List.length_replicate, hlen,
        List.length_singleton]
      have := hg s.len
      omega
    · show List.take (s.len + 1) ((h ++ [_]).getD h.length []) = _
      rw [getD_append_length]
      exact List.take_left' (by simp [hlen])
    · intro t ht _
      unfold read
      rw [getD_append_left _ ht]
    · intro t ht
      unfold cap
      rw [getD_append_left _ ht]
    · intro a ha
      refine (List.mem_append.mp ha).imp_right fun ha => ?_
      obtain ⟨i, _, rfl⟩ := List.mem_map.mp ha
      exact ⟨rfl, Or.inr (Nat.le_refl _)⟩

/-- The fold written inline in `step (.appendToken ..)` and in `payloadPinned` (Model/Heap). -/
def appFold (grow : Nat → Nat) (pad : α) (acc : Heap α × Slice × List Access) (xs : List α) :
    Heap α × Slice × List Access :=
  xs.foldl (fun (acc : Heap α × Slice × List Access) x =>
    let a := append grow pad acc.1 acc.2.1 x
    (a.1, a.2.1, acc.2.2 ++ a.2.2)) acc

theorem appFold_spec (grow : Nat → Nat) (hg : ∀ n, grow n > n) (pad : α) {h : Heap α} {s : Slice}
    (hv : Valid h s) (w0 : List Access) (xs : List α) :
    AppSpec h s xs w0 (appFold grow pad (h, s, w0) xs).1 (appFold grow pad (h, s, w0) xs).2.1
      (appFold grow pad (h, s, w0) xs).2.2 := by
  induction xs generalizing h s w0 with
  | nil => exact AppSpec.refl hv w0
  | cons x xs ih =>
    have a := append_spec grow hg pad hv x w0
    have b := ih a.valid (w0 ++ (append grow pad h s x).2.2)
    exact AppSpec.trans a b

theorem AppSpec.forget {h h' : Heap α} {s s' : Slice} {xs : List α} {w0 w : List Access}
    (a : AppSpec h s xs w0 h' s' w) : AppSpec h s xs [] h' s' [] :=
  { a with writes := fun _ ha => Or.inl ha }

/-- `h'` extends `h`: every allocated array of `h` is still there with the same cells. -/
def Ext (h h' : Heap α) : Prop :=
  h.length ≤ h'.length ∧ ∀ t : Slice, t.arr < h.length → read h' t = read h t ∧ cap h' t = cap h t

theorem Ext.refl (h : Heap α) : Ext h h := ⟨Nat.le_refl _, fun _ _ => ⟨rfl, rfl⟩⟩

theorem Ext.trans {h h1 h2 : Heap α} (a : Ext h h1) (b : Ext h1 h2) : Ext h h2 :=
  ⟨Nat.le_trans a.1 b.1, fun t ht => by
    have h1 := b.2 t (Nat.lt_of_lt_of_le ht a.1)
    have h2 := a.2 t ht
    exact ⟨h1.1.trans h2.1, h1.2.trans h2.2⟩⟩

theorem Ext.valid {h h' : Heap α} (e : Ext h h') {t : Slice} (hv : Valid h t) : Valid h' t :=
  ⟨Nat.lt_of_lt_of_le hv.1 e.1, by rw [(e.2 t hv.1).2]; exact hv.2⟩

theorem ext_append (h : Heap α) (a : Heap α) : Ext h (h ++ a) :=
  ⟨by simp, fun t ht => by unfold read cap; rw [getD_append_left _ ht]; exact ⟨rfl, rfl⟩⟩

theorem cloneDeep_valid {h : Heap α} {s : Slice} (hv : Valid h s) :
    Valid (h ++ [read h s]) { arr := h.length, len := s.len } := by
  refine ⟨by simp, ?_⟩
  unfold cap
  simp only [getD_append_length, length_read hv.2]
  exact Nat.le_refl _

theorem cloneDeep_read {h : Heap α} {s : Slice} :
    read (h ++ [read h s]) { arr := h.length, len := s.len } = read h s := by
  show List.take s.len ((h ++ [read h s]).getD h.length []) = _
  rw [getD_append_length]
  unfold read
  rw [List.take_take, Nat.min_self]

/-- Appends to the working copy `Clone(token table)`: the old heap is extended, the result is
one fresh valid slice reading the table followed by what was appended, and all writes are fresh. -/
theorem AppSpec.of_copy {h h' : Heap α} {s s' : Slice} {xs : List α} {w : List Access}
    (a : AppSpec (h ++ [read h s]) { arr := h.length, len := s.len } xs [] h' s' w) :
    Ext h h' ∧ Valid h' s' ∧ h.length ≤ s'.arr ∧ read h' s' = read h s ++ xs ∧
      ∀ c ∈ w, h.length ≤ c.arr := by
  have e := ext_append h [read h s]
  have hl : (h ++ [read h s]).length = h.length + 1 := by simp
  refine ⟨⟨Nat.le_trans e.1 a.len_le, fun t ht => ?_⟩, a.valid, ?_, by rw [a.read_self, cloneDeep_read],
    fun c hc => ?_⟩
  · have ht' : t.arr < (h ++ [read h s]).length := Nat.lt_of_lt_of_le ht e.1
    exact ⟨(a.frame t ht' (Or.inl (Nat.ne_of_lt ht))).trans (e.2 t ht).1, (a.cap_eq t ht').trans (e.2 t ht).2⟩
  · have : (s'.arr = h.length ∧ _) ∨ (h ++ [read h s]).length ≤ s'.arr := a.arr
    omega
  · rcases a.writes c hc with h0 | ⟨-, h1⟩
    · cases h0
    · have : c.arr = h.length ∨ (h ++ [read h s]).length ≤ c.arr := h1
      omega

theorem AppSpec.valid_of {h h' : Heap α} {s s' : Slice} {xs : List α} {w0 w : List Access}
    (a : AppSpec h s xs w0 h' s' w) {t : Slice} (hv : Valid h t) : Valid h' t :=
  ⟨Nat.lt_of_lt_of_le hv.1 a.len_le, by rw [a.cap_eq t hv.1]; exact hv.2⟩

theorem owned_iff (st : State α) : Owned st ↔
    (st.tokens.map (·.arr) ++ st.builders.map (·.1.arr)).Nodup ∧
    (∀ s ∈ st.tokens, Valid st.heap s) ∧ (∀ b ∈ st.builders, Valid st.heap b.1) := by
  unfold Owned Valid
  simp only [List.map_append, List.map_map, List.mem_append, List.mem_map]
  constructor
  · rintro ⟨hn, hv⟩
    exact ⟨hn, fun s hs => hv s (Or.inl hs), fun b hb => hv b.1 (Or.inr ⟨b, hb, rfl⟩)⟩
  · rintro ⟨hn, ht, hb⟩
    refine ⟨hn, fun s hs => ?_⟩
    rcases hs with hs | ⟨b, hb', rfl⟩
    · exact ht s hs
    · exact hb b hb'

theorem Owned.valid_token {st : State α} (h : Owned st) {s : Slice} (hs : s ∈ st.tokens) :
    Valid st.heap s :=
  ((owned_iff st).mp h).2.1 s hs

theorem Owned.valid_builder {st : State α} (h : Owned st) {b : Slice × Nat} (hb : b ∈ st.builders) :
    Valid st.heap b.1 :=
  ((owned_iff st).mp h).2.2 b hb

theorem fresh_not_mem {st : State α} (ht : ∀ s ∈ st.tokens, Valid st.heap s)
    (hb : ∀ b ∈ st.builders, Valid st.heap b.1) {k : Nat} (hk : st.heap.length ≤ k) :
    k ∉ st.tokens.map (·.arr) ++ st.builders.map (·.1.arr) := by
  simp only [List.mem_append, List.mem_map, not_or, not_exists, not_and]
  refine ⟨fun s hs he => ?_, fun b hb' he => ?_⟩
  · have := (ht s hs).1; omega
  · have := (hb b hb').1; omega

theorem append_set_eq {β : Type} (l1 l2 : List β) (i : Nat) (v : β) :
    l1 ++ l2.set i v = (l1 ++ l2).set (l1.length + i) v := by
  rw [List.set_append, if_neg (by omega), Nat.add_sub_cancel_left]

theorem Owned.ext {st : State α} (h : Owned st) {h' : Heap α} (e : Ext st.heap h') :
    Owned { st with heap := h' } := by
  obtain ⟨hn, ht, hb⟩ := (owned_iff st).mp h
  exact (owned_iff _).mpr ⟨hn, fun s hs => e.valid (ht s hs), fun b hb' => e.valid (hb b hb')⟩

/-- A fresh valid slice joins the live objects, as a token or as a builder's table. -/
theorem Owned.push {st st' : State α} (h : Owned st) (e : Ext st.heap st'.heap) {s' : Slice}
    (v : Valid st'.heap s') (f : st.heap.length ≤ s'.arr)
    (hp : (st'.tokens ++ st'.builders.map (·.1)).Perm (s' :: (st.tokens ++ st.builders.map (·.1)))) :
    Owned st' := by
  obtain ⟨hn, hv⟩ := h
  refine ⟨(hp.map _).nodup_iff.mpr (List.nodup_cons.mpr ⟨fun hm => ?_, hn⟩), fun s hs => ?_⟩
  · obtain ⟨s, hs, (he : s.arr = s'.arr)⟩ := List.mem_map.mp hm
    have := (hv s hs).1
    omega
  · rcases List.mem_cons.mp (hp.subset hs) with rfl | hs
    · exact v
    · exact e.valid (hv s hs)

theorem run_induction (deep : Bool) (grow : Nat → Nat) (pad : α) (P : State α → Prop)
    (hstep : ∀ st op, P st → P (step deep grow pad st op).1) :
    ∀ (ops : List (Op α)) (st : State α), P st → P (run deep grow pad st ops)
  | [], _, h => h
  | op :: ops, st, h => run_induction deep grow pad P hstep ops _ (hstep st op h)

/-- The one array allocated before the step that `op` may write into: the acting builder's. -/
def target (st : State α) : Op α → Option Nat
  | .addSymbol b _ => st.builders[b]?.map (·.1.arr)
  | _ => none

structure StepOK (st : State α) (op : Op α) (st' : State α) (w : List Access) : Prop where
  owned : Owned st'
  tokens : ∀ {i : Nat} {s : Slice}, st.tokens[i]? = some s → st'.tokens[i]? = some s
  builders : ∀ {j : Nat} {b : Slice × Nat}, st.builders[j]? = some b → (∀ x, op ≠ .addSymbol j x) →
    st'.builders[j]? = some b
  frame : ∀ t : Slice, t.arr < st.heap.length → some t.arr ≠ target st op →
    read st'.heap t = read st.heap t
  writes : ∀ a ∈ w, st.heap.length ≤ a.arr ∨ some a.arr = target st op

theorem step_ok (grow : Nat → Nat) (hg : ∀ n, grow n > n) (pad : α) (st : State α) (h : Owned st)
    (op : Op α) : StepOK st op (step true grow pad st op).1 (step true grow pad st op).2 := by
  have noop : StepOK st op st [] :=
    ⟨h, id, fun hb _ => hb, fun _ _ _ => rfl, fun _ ha => nomatch ha⟩
  obtain ⟨hn, ht, hb⟩ := (owned_iff st).mp h
  cases op with
  | createBlock t =>
    cases hs : st.tokens[t]? with
    | none => simp only [step, hs]; exact noop
    | some s =>
      simp only [step, hs, cloneDeep, if_true]
      obtain ⟨e, v, f, -, -⟩ := (AppSpec.refl (cloneDeep_valid (ht s (List.mem_of_getElem? hs))) []).of_copy
      -- `hp`: the new table is the last of the live slices (tokens, then builders' tables)
      exact ⟨h.push e v f (hp := by
        simp only [List.map_append, List.map_cons, List.map_nil, ← List.append_assoc]
        exact List.perm_append_singleton _ _), id,
        fun hb' _ => by rw [List.getElem?_append_left (List.getElem?_eq_some_iff.mp hb').1]; exact hb',
        fun t ht' _ => (e.2 t ht').1, fun _ ha => nomatch ha⟩
  | getBlockID t x =>
    cases hs : st.tokens[t]? with
    | none => simp only [step, hs]; exact noop
    | some s =>
      simp only [step, hs, cloneDeep, if_true]
      obtain ⟨e, -, -, -, w⟩ :=
        (append_spec grow hg pad (cloneDeep_valid (ht s (List.mem_of_getElem? hs))) x []).of_copy
      exact ⟨h.ext e, id, fun hb' _ => hb', fun t ht' _ => (e.2 t ht').1, fun a ha => Or.inl (w a ha)⟩
  | appendToken t b =>
    cases hs : st.tokens[t]? with
    | none => simp only [step, hs]; exact noop
    | some s =>
      cases hbs : st.builders[b]? with
      | none => simp only [step, hs, hbs]; exact noop
      | some p =>
        simp only [step, hs, hbs, cloneDeep, if_true]
        obtain ⟨e, v, f, -, w⟩ := (appFold_spec grow hg pad (cloneDeep_valid (ht s (List.mem_of_getElem? hs)))
          [] ((read st.heap p.1).drop p.2)).of_copy
        -- `hp`: the new token is the last of the tokens, in front of the builders' tables
        exact ⟨h.push e v f (hp := by
          simp only [List.append_assoc, List.singleton_append]
          exact List.perm_middle),
          fun hs' => by rw [List.getElem?_append_left (List.getElem?_eq_some_iff.mp hs').1]; exact hs',
          fun hb' _ => hb', fun t ht' _ => (e.2 t ht').1, fun a ha => Or.inl (w a ha)⟩
  | addSymbol b x =>
    cases hs : st.builders[b]? with
    | none => simp only [step, hs]; exact noop
    | some p =>
      simp only [step, hs]
      have a := append_spec grow hg pad (hb p (List.mem_of_getElem? hs)) x []
      refine ⟨(owned_iff _).mpr ⟨?_, fun s' hs' => a.valid_of (ht s' hs'), fun b' hb' => ?_⟩, id,
        fun {j _} hb' hne => ?_, fun t ht' hne => a.frame t ht' (Or.inl fun he => hne ?_), fun c hc => ?_⟩
      -- the builder's array stays its own (in place) or is fresh (reallocated)
      · rw [List.map_set, append_set_eq]
        rcases a.arr with ⟨he, _⟩ | hfresh
        · rw [set_of_getElem?]
          · exact hn
          · rw [List.getElem?_append_right (Nat.le_add_right _ _), Nat.add_sub_cancel_left,
              List.getElem?_map, hs]
            simp [he]
        · exact nodup_set_of_not_mem hn (fresh_not_mem ht hb hfresh)
      · rcases List.mem_or_eq_of_mem_set hb' with hb' | rfl
        · exact a.valid_of (hb b' hb')
        · exact a.valid
      · rw [List.getElem?_set_ne fun he => hne x (by rw [he])]; exact hb'
      · simp only [target, hs, Option.map_some, he]
      · rcases a.writes c hc with h0 | ⟨-, h1 | h2⟩
        · cases h0
        · exact Or.inr (by simp only [target, hs, Option.map_some, h1])
        · exact Or.inl h2

/-- Distinct live objects own distinct arrays, so no token's array is the step's target. -/
theorem Owned.token_ne_target {st : State α} (h : Owned st) {s : Slice} (hs : s ∈ st.tokens)
    (op : Op α) : some s.arr ≠ target st op := by
  cases op with
  | addSymbol b x =>
    intro he
    obtain ⟨p, hp, hpe⟩ := Option.map_eq_some_iff.mp he.symm
    exact (List.nodup_append.mp ((owned_iff st).mp h).1).2.2 s.arr (List.mem_map_of_mem hs) p.1.arr
      (List.mem_map_of_mem (List.mem_of_getElem? hp)) hpe.symm
  | _ => exact fun he => nomatch he

theorem Owned.builder_ne_target {st : State α} (h : Owned st) {j : Nat} {b : Slice × Nat}
    (hb : st.builders[j]? = some b) {op : Op α} (hne : ∀ x, op ≠ .addSymbol j x) :
    some b.1.arr ≠ target st op := by
  cases op with
  | addSymbol b' x =>
    intro he
    obtain ⟨p, hp, hpe⟩ := Option.map_eq_some_iff.mp he.symm
    exact map_nodup_ne (List.nodup_append.mp ((owned_iff st).mp h).1).2.1 hb hp
      (fun hj => hne x (by rw [hj])) hpe.symm
  | _ => exact fun he => nomatch he

end Biscuit.Heap
