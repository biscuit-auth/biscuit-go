/-
Proofs/LexerLayout — lemmas for the round trip of the lexer over arbitrary layouts
(`Props/C14Layout`).

The sub-lexers do not look past a remaining input `rest` that they cannot enter: `stopAt p rest`
says that `rest` is empty or starts with a character outside `p`.

* stop locality (`*_stop`): `spanWhile`, `stripLit`, `firstWordC`, `takeDigits`, `lexDate` on
  `s ++ rest` do what they do on `s`, with `rest` appended to the remainder (`padW`).
* what `hexPairs`, `lexDate` and a two-character literal do in front of `rest` (`hexPairs_okAfter`,
  `lexDate_digits_none_stop`, `stripLit2_none`).
* `Lexes cs ts`: the fuel-free reading of `lexAux` (`lex_of_Lexes`); a blank prefix is elided
  (`lexOne_blank`, `Lexes_blank_prefix`).
-/
import BiscuitModel.Proofs.LexRules
import BiscuitModel.Model.Layout

namespace Biscuit.Grammar

/-- `rest` is empty or starts with a character outside `p`. -/
def stopAt (p : Char → Bool) : List Char → Bool
  | [] => true
  | c :: _ => !p c

def padW {α : Type} (rest : List Char) (p : α × List Char) : α × List Char := (p.1, p.2 ++ rest)

@[simp] theorem padW_fst {α : Type} (rest : List Char) (p : α × List Char) : (padW rest p).1 = p.1 := rfl
@[simp] theorem padW_snd {α : Type} (rest : List Char) (p : α × List Char) : (padW rest p).2 = p.2 ++ rest := rfl

/-- `padW` with one space in front of `rest` (a token of `Model/Spell.spell` is followed by a space). -/
def padR {α : Type} (rest : List Char) (p : α × List Char) : α × List Char := (p.1, p.2 ++ ' ' :: rest)

@[simp] theorem padR_fst {α : Type} (rest : List Char) (p : α × List Char) : (padR rest p).1 = p.1 := rfl
@[simp] theorem padR_snd {α : Type} (rest : List Char) (p : α × List Char) : (padR rest p).2 = p.2 ++ ' ' :: rest := rfl

theorem map_padW_nil {α : Type} (o : Option (α × List Char)) : o.map (padW []) = o := by
  cases o <;> simp [padW]

theorem stopAt_mono {p q : Char → Bool} (h : ∀ c, q c = true → p c = true) {rest : List Char}
    (hr : stopAt p rest = true) : stopAt q rest = true := by
  cases rest with
  | nil => rfl
  | cons x r =>
    simp only [stopAt, Bool.not_eq_true'] at hr ⊢
    cases hq : q x with
    | false => rfl
    | true => rw [h x hq] at hr; cases hr

theorem stopAt_cons {p : Char → Bool} {x : Char} {r : List Char} : stopAt p (x :: r) = !p x := rfl

theorem isNameChar_of_isWordChar (c : Char) (h : isWordChar c = true) : isNameChar c = true := by
  simp only [isWordChar, isNameChar, Bool.or_eq_true] at h ⊢
  exact Or.inl h

theorem atWordEnd_eq_stopAt (rest : List Char) : atWordEnd rest = stopAt isWordChar rest := by
  cases rest <;> rfl

theorem spanWhile_stop (p : Char → Bool) (s rest : List Char) (hr : stopAt p rest = true) :
    spanWhile p (s ++ rest) = padW rest (spanWhile p s) := by
  induction s with
  | nil =>
    cases rest with
    | nil => rfl
    | cons x r =>
      simp only [stopAt, Bool.not_eq_true'] at hr
      simp [spanWhile, hr, padW]
  | cons c s ih =>
    simp only [List.cons_append, spanWhile]
    split
    · simp [ih, padW]
    · simp [padW]

theorem spanWhile_all (p : Char → Bool) (s : List Char) (hs : s.all p = true) :
    spanWhile p s = (s, []) := by
  fun_induction spanWhile p s with
  | case1 => rfl
  | case2 c cs h r ih => simp only [List.all_cons, h, Bool.true_and] at hs; simp [r, ih hs]
  | case3 c cs h => simp [h] at hs

theorem spanWhile_append_stopAt (p : Char → Bool) (s rest : List Char) (hs : s.all p = true)
    (hr : stopAt p rest = true) : spanWhile p (s ++ rest) = (s, rest) := by
  rw [spanWhile_stop p s rest hr, spanWhile_all p s hs]; rfl

theorem stripLit_stop (p : Char → Bool) (l s rest : List Char) (hl : l.all p = true)
    (hr : stopAt p rest = true) : stripLit l (s ++ rest) = (stripLit l s).map (· ++ rest) := by
  induction l generalizing s with
  | nil => simp [stripLit]
  | cons a l ih =>
    simp only [List.all_cons, Bool.and_eq_true] at hl
    cases s with
    | nil =>
      cases rest with
      | nil => simp [stripLit]
      | cons x r =>
        simp only [stopAt, Bool.not_eq_true'] at hr
        simp [stripLit, ne_of_pred hl.1 hr]
    | cons c s =>
      simp only [List.cons_append, stripLit]
      split
      · exact ih s hl.2
      · rfl

theorem atWordEnd_stop (r rest : List Char) (hr : stopAt isWordChar rest = true) :
    atWordEnd (r ++ rest) = atWordEnd r := by
  cases r with
  | nil => rw [List.nil_append, atWordEnd_eq_stopAt, hr]; rfl
  | cons c r => rfl

theorem firstWordC_stop (p : Char → Bool) (lits : List (List Char)) (s rest : List Char)
    (hl : ∀ l ∈ lits, l.all p = true) (hr : stopAt p rest = true)
    (hw : stopAt isWordChar rest = true) :
    firstWordC lits (s ++ rest) = (firstWordC lits s).map (padW rest) := by
  induction lits with
  | nil => simp [firstWordC]
  | cons l lits ih =>
    have ih := ih (fun l' h' => hl l' (List.mem_cons_of_mem _ h'))
    simp only [firstWordC]
    rw [stripLit_stop p _ _ _ (hl l (List.mem_cons_self ..)) hr]
    cases h : stripLit l s with
    | none => simpa using ih
    | some r =>
      simp only [Option.map_some, atWordEnd_stop _ _ hw]
      split
      · simp [padW]
      · exact ih

/-- A literal with a space inside (`check if`) does not match at a name `s` other than the part
before the space. -/
theorem stripLit_space_lit_stop (a b s rest : List Char) (ha : a.all isNameChar = true)
    (hs : s.all isNameChar = true) (hne : s ≠ a) (hr : stopAt isNameChar rest = true) :
    stripLit (a ++ ' ' :: b) (s ++ rest) = none := by
  induction a generalizing s with
  | nil =>
    cases s with
    | nil => exact absurd rfl hne
    | cons c s =>
      simp only [List.all_cons, Bool.and_eq_true] at hs
      have : ' ' ≠ c := (ne_of_pred hs.1 (by decide : isNameChar ' ' = false)).symm
      simp [stripLit, this]
  | cons x a ih =>
    simp only [List.all_cons, Bool.and_eq_true] at ha
    cases s with
    | nil =>
      cases rest with
      | nil => simp [stripLit]
      | cons y r =>
        simp only [stopAt, Bool.not_eq_true'] at hr
        simp [stripLit, ne_of_pred ha.1 hr]
    | cons c s =>
      simp only [List.all_cons, Bool.and_eq_true] at hs
      simp only [List.cons_append, stripLit]
      split
      · rename_i hxc
        have hxc : x = c := by simpa using hxc
        exact ih s ha.2 hs.2 (fun e => hne (by rw [hxc, e]))
      · rfl

theorem firstLitC_keyword_stop (s rest : List Char) (hs : s.all isNameChar = true)
    (hk : s ∉ keywordHeads) (hr : stopAt isNameChar rest = true) :
    firstLitC kwC (s ++ rest) = none := by
  have heads : keywordHeads = [['c','h','e','c','k'], ['a','l','l','o','w'], ['d','e','n','y']] := by decide
  simp only [heads, List.mem_cons, List.not_mem_nil, or_false, not_or] at hk
  have e1 := stripLit_space_lit_stop ['c','h','e','c','k'] ['i','f'] s rest (by decide) hs hk.1 hr
  have e2 := stripLit_space_lit_stop ['a','l','l','o','w'] ['i','f'] s rest (by decide) hs hk.2.1 hr
  have e3 := stripLit_space_lit_stop ['d','e','n','y'] ['i','f'] s rest (by decide) hs hk.2.2 hr
  simp only [List.cons_append, List.nil_append] at e1 e2 e3
  simp only [kwC, firstLitC, e1, e2, e3]

theorem takeDigits_stop (n : Nat) (s rest : List Char) (hr : stopAt isDigit rest = true) :
    takeDigits n (s ++ rest) = (takeDigits n s).map (padW rest) := by
  cases rest with
  | nil => rw [List.append_nil, map_padW_nil]
  | cons x r =>
    simp only [stopAt, Bool.not_eq_true'] at hr
    unfold takeDigits
    by_cases h : n ≤ s.length
    · simp only [List.take_append_of_le_length h, List.drop_append_of_le_length h]
      split <;> simp [padW]
    · have h' : s.length < n := by omega
      have h1 : decide ((s.take n).length = n) = false := by simp [List.length_take]; omega
      have h2 : ((s ++ x :: r).take n).all isDigit = false := by
        obtain ⟨k, hk⟩ : ∃ k, n - s.length = k + 1 := ⟨n - s.length - 1, by omega⟩
        rw [List.take_append, hk, List.take_succ_cons]
        simp [hr]
      simp only [h1, h2, Bool.and_false, Bool.false_and, Bool.false_eq_true, if_false, Option.map_none]

theorem stripLit1_stop (c : Char) (s rest : List Char) (hr : stopAt (· == c) rest = true) :
    stripLit [c] (s ++ rest) = (stripLit [c] s).map (· ++ rest) :=
  stripLit_stop (· == c) _ _ _ (by simp) hr

theorem stripLit1_none {c : Char} {rest : List Char} (hr : stopAt (· == c) rest = true) :
    stripLit [c] rest = none :=
  stripLit1_stop c [] rest hr

theorem dateFrac_nil : dateFrac [] = ([], []) := rfl

theorem dateFrac_stop (r rest : List Char) (h1 : stopAt isDigit rest = true)
    (h2 : stopAt (· == '.') rest = true) : dateFrac (r ++ rest) = padW rest (dateFrac r) := by
  cases r with
  | nil =>
    cases rest with
    | nil => rfl
    | cons x r =>
      have : x ≠ '.' := by simpa [stopAt] using h2
      rw [List.nil_append, dateFrac_ne _ _ this]; rfl
  | cons c r' =>
    by_cases hc : c = '.'
    · subst hc
      rw [List.cons_append, dateFrac_dot, dateFrac_dot, spanWhile_stop isDigit _ _ h1]
      by_cases he : (spanWhile isDigit r').1.isEmpty = true
      · simp [he, padW]
      · simp [he, padW]
    · rw [List.cons_append, dateFrac_ne _ _ hc, dateFrac_ne _ _ hc]; rfl

theorem dateZone_stop (r rest : List Char) (h1 : stopAt isDigit rest = true)
    (h2 : stopAt (· == ':') rest = true) (h3 : stopAt (· == 'Z') rest = true)
    (h4 : stopAt (· == '+') rest = true) (h5 : stopAt (· == '-') rest = true) :
    dateZone (r ++ rest) = padW rest (dateZone r) := by
  cases r with
  | nil =>
    cases rest with
    | nil => rfl
    | cons x r =>
      have a3 : x ≠ 'Z' := by simpa [stopAt] using h3
      have a4 : x ≠ '+' := by simpa [stopAt] using h4
      have a5 : x ≠ '-' := by simpa [stopAt] using h5
      simp [dateZone, padW, a4, a5]
  | cons c r' =>
    by_cases hc : c = 'Z'
    · subst hc; simp [dateZone, padW]
    · have e3 := fun s => stripLit1_stop ':' s rest h2
      simp only [dateZone, List.cons_append, takeDigits_stop _ _ _ h1]
      split
      · cases takeDigits 2 r' with
        | none => simp [padW]
        | some p =>
          obtain ⟨zh, r2⟩ := p
          simp only [Option.map_some, e3, padW]
          cases stripLit [':'] r2 with
          | none => simp
          | some r3 =>
            simp only [Option.map_some, takeDigits_stop _ _ _ h1]
            cases takeDigits 2 r3 with
            | none => simp
            | some q => simp [padW]
      · simp [padW]

theorem stopAt_dateCont {rest : List Char} (h : stopAt dateCont rest = true) :
    stopAt isDigit rest = true ∧ stopAt (· == '-') rest = true ∧ stopAt (· == 'T') rest = true ∧
    stopAt (· == ':') rest = true ∧ stopAt (· == '.') rest = true ∧ stopAt (· == 'Z') rest = true ∧
    stopAt (· == '+') rest = true := by
  cases rest with
  | nil => simp [stopAt]
  | cons x r =>
    simp only [stopAt, dateCont, Bool.not_eq_true', Bool.or_eq_false_iff] at h ⊢
    obtain ⟨⟨⟨⟨⟨⟨a1, a2⟩, a3⟩, a4⟩, a5⟩, a6⟩, a7⟩ := h
    exact ⟨a1, a2, a3, a4, a5, a6, a7⟩

theorem dateFin_stop (b r rest : List Char) (h : stopAt dateCont rest = true) :
    dateFin b (r ++ rest) = padW rest (dateFin b r) := by
  obtain ⟨a1, a2, a3, a4, a5, a6, a7⟩ := stopAt_dateCont h
  simp [dateFin, dateFrac_stop _ _ a1 a5, dateZone_stop _ _ a1 a4 a6 a7 a2, padW]

theorem lexDate_stop (s rest : List Char) (h : stopAt dateCont rest = true) :
    lexDate (s ++ rest) = (lexDate s).map (padW rest) := by
  obtain ⟨a1, a2, a3, a4, a5, a6, a7⟩ := stopAt_dateCont h
  have e0 := fun n s => takeDigits_stop n s rest a1
  have e1 := fun s => stripLit1_stop '-' s rest a2
  have e2 := fun s => stripLit1_stop 'T' s rest a3
  have e3 := fun s => stripLit1_stop ':' s rest a4
  have e4 := fun b r => dateFin_stop b r rest h
  simp only [lexDate_eq, lexDate', e0, e1, e2, e3, Option.bind_map, Option.map_bind, Function.comp_def,
    e4, Option.map_some, padW_fst, padW_snd]

/-- The Hex rule cannot go on into a `rest` that may follow a Hex token (`okAfter`). -/
theorem hexPairs_okAfter {x rest : List Char} (h : okAfter (.hex x) rest = true) : hexPairs rest = ([], rest) := by
  match rest, h with
  | [], _ => rfl
  | [_], _ => rfl
  | a :: b :: r, h =>
    simp only [okAfter, Bool.not_eq_true'] at h
    simp [hexPairs, h]

theorem hexPairs_append_stop (ds rest : List Char) (hd : ds.all isHexDigit = true) (he : ds.length % 2 = 0)
    {x : List Char} (hr : okAfter (.hex x) rest = true) : hexPairs (ds ++ rest) = (ds, rest) :=
  match ds, hd, he with
  | [], _, _ => hexPairs_okAfter hr
  | [_], _, he => by simp at he
  | a :: b :: ds, hd, he => by
    simp only [List.all_cons, Bool.and_eq_true] at hd
    have := hexPairs_append_stop ds rest hd.2.2 (by simp only [List.length_cons] at he; omega) hr
    simp [hexPairs, hd.1, hd.2.1, this]

theorem lexDate_digits_none_stop (ds : List Char) (hd : ds.all isDigit = true) (rest : List Char)
    (hr : stopAt isDigit rest = true) (h4 : ds.length ≠ 4 ∨ stopAt (· == '-') rest = true) :
    lexDate (ds ++ rest) = none := by
  rw [lexDate_eq, lexDate', takeDigits_stop _ _ _ hr]
  cases h : takeDigits 4 ds with
  | none => rfl
  | some p =>
    obtain ⟨rfl, hlen⟩ := takeDigits_some h
    -- after the four digits comes a fifth, or `rest`
    have : stripLit ['-'] (ds.drop 4 ++ rest) = none := by
      cases h5 : ds.drop 4 with
      | nil =>
        have : ds.length = 4 := by have := congrArg List.length h5; simp at this; omega
        exact stripLit1_none (h4.resolve_left (fun h => h this))
      | cons x xs =>
        have hx : isDigit x = true :=
          List.all_eq_true.1 hd x (List.mem_of_mem_drop (h5 ▸ List.mem_cons_self ..))
        simp [stripLit, (ne_of_pred hx (by decide : isDigit '-' = false)).symm]
    simp [padW, this]

theorem stripLit2_none (a b c : Char) (rest : List Char)
    (h : c = a → stopAt (· == b) rest = true) : stripLit [a, b] (c :: rest) = none := by
  by_cases hca : c = a
  · subst hca
    simp [stripLit, stripLit1_none (h rfl)]
  · have : ¬ a = c := fun e => hca e.symm
    simp [stripLit, this]

theorem isBlank_cases {c : Char} (hc : isBlank c = true) : c = ' ' ∨ c = '\t' ∨ c = '\n' ∨ c = '\r' := by
  simpa [isBlank, or_assoc] using hc

/-- A step at a blank character elides the run of blanks of its class (Whitespace: space and tab; EOL:
newline and CR). -/
theorem lexOne_blank (c : Char) (hc : isBlank c = true) (rest : List Char) :
    lexOne (c :: rest) = some (none,
      if c == ' ' || c == '\t' then (spanWhile (fun x => x == ' ' || x == '\t') (c :: rest)).2
      else (spanWhile (fun x => x == '\n' || x == '\r') (c :: rest)).2) := by
  -- a blank is no letter, no digit and no punctuation: every rule before the two blank rules fails, and
  -- the blank rule whose class holds `c` fires
  have hld : isLower c = false ∧ isDigit c = false := by
    rcases isBlank_cases hc with rfl | rfl | rfl | rfl <;> decide
  obtain ⟨b1, b2, b3, b4, b5, b6, b7, b8, b9, -⟩ := punct_rules_none isBlank (by decide) c rest hc
  cases hw : (c == ' ' || c == '\t') with
  | true =>
    simp only [lexOne_sym c rest hld.1 hld.2, List.findSome?_cons, b1, b2, b3, b4, b5, b6, b7, b8, b9, blankRule,
      headRule, hw, if_true]
  | false =>
    have he : (c == '\n' || c == '\r') = true := by
      simpa only [isBlank, Bool.or_assoc, hw, Bool.false_or] using hc
    simp only [lexOne_sym c rest hld.1 hld.2, List.findSome?_cons, b1, b2, b3, b4, b5, b6, b7, b8, b9, blankRule,
      headRule, hw, he, Bool.false_eq_true, if_false, if_true]

/-- The same with the class as a variable `q`, for the proofs that only need that it holds `c` and blanks only. -/
theorem lexOne_blank_class (c : Char) (hc : isBlank c = true) (rest : List Char) :
    ∃ q : Char → Bool, q c = true ∧ (∀ x, q x = true → isBlank x = true) ∧
      lexOne (c :: rest) = some (none, (spanWhile q (c :: rest)).2) := by
  have e := lexOne_blank c hc rest
  cases hw : (c == ' ' || c == '\t') with
  | true =>
    rw [hw, if_pos rfl] at e
    exact ⟨_, hw, fun x hx => by simp [isBlank, hx], e⟩
  | false =>
    rw [hw, if_neg (by decide)] at e
    have he : (c == '\n' || c == '\r') = true := by
      simpa only [isBlank, Bool.or_assoc, hw, Bool.false_or] using hc
    refine ⟨_, he, fun x hx => ?_, e⟩
    simp only [Bool.or_eq_true] at hx
    rcases hx with h | h <;> simp [isBlank, h]

/-- `lexAux` without the fuel: the steps of `lexOne`, each consuming at least one character. -/
inductive Lexes : List Char → List Tok → Prop
  | nil : Lexes [] []
  | tok {cs rest : List Char} {t : Tok} {ts : List Tok} :
      lexOne cs = some (some t, rest) → rest.length < cs.length → Lexes rest ts → Lexes cs (t :: ts)
  | skip {cs rest : List Char} {ts : List Tok} :
      lexOne cs = some (none, rest) → rest.length < cs.length → Lexes rest ts → Lexes cs ts

theorem lexAux_of_Lexes {cs : List Char} {ts : List Tok} (h : Lexes cs ts) :
    ∀ fuel, cs.length < fuel → lexAux fuel cs = some ts := by
  induction h with
  | nil => intro fuel _; cases fuel <;> rfl
  | @tok cs rest _ _ h1 hlen _ ih | @skip cs rest _ h1 hlen _ ih =>
    intro fuel hf
    obtain ⟨f, rfl⟩ : ∃ f, fuel = f + 1 := ⟨fuel - 1, by omega⟩
    cases cs with
    | nil => simp at hlen
    | cons c cs =>
      simp only [lexAux, h1, if_pos hlen, ih f (by omega)]

theorem lex_of_Lexes {cs : List Char} {ts : List Tok} (h : Lexes cs ts) : lex cs = some ts :=
  lexAux_of_Lexes h _ (Nat.lt_succ_self _)

theorem Lexes_blank_prefix {rest : List Char} {ts : List Tok} (hr : stopAt isBlank rest = true)
    (h : Lexes rest ts) (g : List Char) (hg : g.all isBlank = true) : Lexes (g ++ rest) ts := by
  -- one step elides a run of blanks of one class, not necessarily all of `g`
  induction hn : g.length using Nat.strongRecOn generalizing g with
  | ind n ih =>
    cases g with
    | nil => exact h
    | cons c g =>
      simp only [List.all_cons, Bool.and_eq_true] at hg
      obtain ⟨q, hqc, hq, e⟩ := lexOne_blank_class c hg.1 (g ++ rest)
      have hsuf : (spanWhile q g).2 <:+ g := ⟨_, spanWhile_append q g⟩
      have e' : lexOne (c :: g ++ rest) = some (none, (spanWhile q g).2 ++ rest) := by
        rw [List.cons_append, e, ← List.cons_append, spanWhile_stop q _ _ (stopAt_mono hq hr)]
        simp [spanWhile, hqc]
      have hlen := hsuf.length_le
      subst hn
      refine Lexes.skip e' (by simp only [List.length_append, List.length_cons]; omega)
        (ih _ (by simp only [List.length_cons]; omega) _ ?_ rfl)
      exact List.all_eq_true.2 fun x hx => List.all_eq_true.1 hg.2 x (hsuf.subset hx)

end Biscuit.Grammar
