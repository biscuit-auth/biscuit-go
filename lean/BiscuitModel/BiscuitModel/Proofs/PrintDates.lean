/-
Proofs/PrintDates — the literal writers of `Model/Printer` against the literal readers of
`Model/Grammar`: integers, byte strings, dates.

* integers: `natDigits n` (Lean's `toString`) is a non-empty digit string that `natOfDigits`
  reads back as `n`; a negative integer prints as `-` and the digits of its absolute value
  (`printInt_negSucc`);
* bytes: `printHex b` is an even number of hex digits that `bytesOfHex` reads back as `b`;
* dates: `daysFromCivil` inverts `civilFromDays` (Hinnant's `civil_from_days`) on all days
  from 1970-01-01 on (`civilFromDays_spec`: month and day in range, the year below 10000
  for days before 10000-01-01), hence for every instant before the year 10000 the printed
  RFC 3339 text is accepted COMPLETELY by the Date rule of the lexer and `unixOfDate` reads it
  back as the same instant (`printDate_roundtrip`).

The year-of-era formula `(doe - doe/1460 + doe/36524 - doe/146096) / 365` is proved correct by
monotonicity plus a table of the 400 years of an era (`yoe_table`, kernel evaluation of 400
cases, which also gives the length of every year).  Everything else is linear arithmetic; each
such fact is a lemma of its own about variables (`daysFromCivil_eq`, `mp_spec`, `year_lt`, …),
because `omega` reads every hypothesis in the context.  The text of a date is handled field by
field (`IsField`).
-/
import BiscuitModel.Model.Printer

namespace Biscuit.PrintDates
open Biscuit Biscuit.Grammar Biscuit.Printer

theorem isDigit_of_charIsDigit (c : Char) (h : c.isDigit = true) : isDigit c = true := by
  simp only [Char.isDigit, Bool.and_eq_true, decide_eq_true_eq] at h
  simp only [isDigit, Bool.and_eq_true, decide_eq_true_eq, Char.le_def]
  exact h

theorem natOfDigits_eq (ds : List Char) : natOfDigits ds = Nat.ofDigitChars 10 ds 0 := by
  unfold natOfDigits Nat.ofDigitChars
  congr 1
  funext acc c
  simp only [digitVal]
  omega

theorem natDigits_eq (n : Nat) : natDigits n = Nat.toDigits 10 n := by
  simp [natDigits]

theorem natDigits_ne_nil (n : Nat) : natDigits n ≠ [] := by
  rw [natDigits_eq]; exact Nat.toDigits_ne_nil

theorem natDigits_all (n : Nat) : (natDigits n).all isDigit = true := by
  rw [natDigits_eq, List.all_eq_true]
  intro c hc
  exact isDigit_of_charIsDigit c (Nat.isDigit_of_mem_toDigits (by decide) (by decide) hc)

theorem natOfDigits_natDigits (n : Nat) : natOfDigits (natDigits n) = n := by
  rw [natDigits_eq, natOfDigits_eq]; exact Nat.ofDigitChars_ten_toDigits

theorem printInt_ofNat (n : Nat) : printInt (n : Int) = natDigits n := rfl

theorem printInt_negSucc (m : Nat) : printInt (Int.negSucc m) = '-' :: natDigits (m + 1) := by
  show ("-" ++ toString (m + 1)).toList = _
  rw [String.toList_append]; rfl

theorem hexChar_spec : ∀ k < 16, isHexDigit (hexChar k) = true ∧ hexNibble (hexChar k) = k := by decide

theorem printHex_cons (x : UInt8) (xs : Bytes) :
    printHex (x :: xs) = hexChar (x.toNat / 16) :: hexChar (x.toNat % 16) :: printHex xs := rfl

theorem printHex_spec (b : Bytes) :
    (printHex b).all isHexDigit = true ∧ (printHex b).length = 2 * b.length ∧ bytesOfHex (printHex b) = b := by
  induction b with
  | nil => exact ⟨rfl, rfl, rfl⟩
  | cons x xs ih =>
    obtain ⟨h1, n1⟩ := hexChar_spec (x.toNat / 16) (by have := x.toNat_lt; omega)
    obtain ⟨h2, n2⟩ := hexChar_spec (x.toNat % 16) (by omega)
    refine ⟨?_, ?_, ?_⟩
    · rw [printHex_cons, List.all_cons, List.all_cons, h1, h2, ih.1]; rfl
    · rw [printHex_cons, List.length_cons, List.length_cons, ih.2.1, List.length_cons]; omega
    · have : x.toNat / 16 * 16 + x.toNat % 16 = x.toNat := by omega
      rw [printHex_cons, bytesOfHex, ih.2.2, n1, n2, this, UInt8.ofNat_toNat]

/-- The numerator of the year-of-era formula of `civilFromDays`: the day of the era with its leap days
taken out (one per 1460 days, not the one per 36524, and day 146096, the last of the era), so that
`/ 365` gives the year. -/
def Nf (x : Nat) : Nat := x - x / 1460 + x / 36524 - x / 146096
/-- The year of the era (March-based, 0 … 399) that `civilFromDays` computes for day `doe` of the era. -/
def yoeOf (doe : Nat) : Nat := Nf doe / 365
/-- First day, within its era, of the March-based year `y` of the era. -/
def yearStart (y : Nat) : Nat := 365 * y + y / 4 - y / 100
/-- Its length: March to January are 337 days, then the February of the next civil year. -/
def yearLen (y : Nat) : Nat := 337 + daysInMonth (y + 1) 2

/-- `Nf` is monotone below the last day of an era (where its last term is still zero). -/
theorem Nf_mono (a b : Nat) (h : a ≤ b) (hb : b < 146096) : Nf a ≤ Nf b := by
  have h1 : a - a / 1460 ≤ b - b / 1460 := by omega
  unfold Nf
  rw [Nat.div_eq_of_lt hb, Nat.div_eq_of_lt (Nat.lt_of_le_of_lt h hb)]
  exact Nat.add_le_add h1 (Nat.div_le_div_right h)

theorem yoeOf_mono (a b : Nat) (h : a ≤ b) (hb : b < 146096) : yoeOf a ≤ yoeOf b :=
  Nat.div_le_div_right (Nf_mono a b h hb)

/-- The formula is right on the first and on the last day of each of the 400 years of an era. -/
theorem yoe_table : ∀ y < 400, yoeOf (yearStart y) = y ∧ yoeOf (yearStart y + yearLen y - 1) = y ∧
    (y < 399 → yearStart y + yearLen y = yearStart (y + 1) ∧ yearStart (y + 1) < 146096) ∧
    (y = 399 → yearStart y + yearLen y = 146097) := by
  decide +kernel

theorem feb_le (y : Nat) : 28 ≤ daysInMonth y 2 ∧ daysInMonth y 2 ≤ 29 := by
  show 28 ≤ (if isLeap y then 29 else 28) ∧ (if isLeap y then 29 else 28) ≤ 29
  split <;> decide

/-- Day `doe` of an era lies in the year that the formula gives. -/
theorem yoe_spec (doe : Nat) (h : doe < 146097) :
    yoeOf doe ≤ 399 ∧ yearStart (yoeOf doe) ≤ doe ∧ doe < yearStart (yoeOf doe) + yearLen (yoeOf doe) := by
  rcases Nat.lt_or_ge doe 146096 with h | h'
  · have h1 : yoeOf doe ≤ 399 := yoeOf_mono doe 146095 (Nat.le_of_lt_succ h) (by decide)
    generalize hy : yoeOf doe = yoe at h1 ⊢
    refine ⟨h1, Nat.le_of_not_lt fun hlt => ?_, Nat.lt_of_not_le fun hge => ?_⟩
    · cases yoe with
      | zero => exact Nat.not_lt_zero _ hlt
      | succ y =>
        obtain ⟨_, ht, hn, _⟩ := yoe_table y (by omega)
        obtain ⟨hn, hn'⟩ := hn (by omega)
        have := yoeOf_mono doe (yearStart y + yearLen y - 1) (by omega) (by omega)
        omega
    · obtain ⟨_, _, hn, h9⟩ := yoe_table yoe (by omega)
      rcases Nat.lt_or_ge yoe 399 with hl | hl
      · have ht' := (yoe_table (yoe + 1) (by omega)).1
        have := yoeOf_mono (yearStart (yoe + 1)) doe (by have := hn hl; omega) h
        omega
      · have := h9 (by omega); omega
  · have : doe = 146096 := Nat.le_antisymm (Nat.le_of_lt_succ h) h'
    subst this; decide

theorem mod_era (y era k : Nat) (h : k ∣ 400) : (y + era * 400) % k = y % k := by
  rw [← Nat.mod_mod_of_dvd (y + era * 400) h, Nat.add_mul_mod_self_right, Nat.mod_mod_of_dvd _ h]

theorem feb_era (y era : Nat) : daysInMonth (y + era * 400) 2 = daysInMonth y 2 := by
  show (if isLeap (y + era * 400) then 29 else 28) = (if isLeap y then 29 else 28)
  rw [isLeap, isLeap, mod_era y era 4 (by decide), mod_era y era 100 (by decide), mod_era y era 400 (by decide)]

theorem daysInMonth_le (y m : Nat) : daysInMonth y m ≤ 31 := by
  unfold daysInMonth; split <;> first | decide | exact Nat.le_trans (feb_le y).2 (by decide)

theorem daysInMonth_march (y mp : Nat) (h : mp < 10) :
    daysInMonth y (mp + 3) = (153 * (mp + 1) + 2) / 5 - (153 * mp + 2) / 5 := by
  match mp, h with
  | 0, _ | 1, _ | 2, _ | 3, _ | 4, _ | 5, _ | 6, _ | 7, _ | 8, _ | 9, _ => rfl

theorem daysFromCivil_eq (y m d era yoe mp : Nat) (hy : yoe ≤ 399)
    (h1 : (if m ≤ 2 then (y : Int) - 1 else y) = ((yoe + era * 400 : Nat) : Int))
    (h2 : ((m : Int) + 9) % 12 = (mp : Int)) :
    daysFromCivil y m d = ((era * 146097 + yearStart yoe + (153 * mp + 2) / 5 + d : Nat) : Int) - 719469 := by
  unfold daysFromCivil
  simp only [h1, h2]
  have e0 : ((yoe + era * 400 : Nat) : Int) ≥ 0 := Int.natCast_nonneg _
  have e1 : ((yoe + era * 400 : Nat) : Int) / 400 = era := by omega
  have e2 : ((yoe + era * 400 : Nat) : Int) - era * 400 = yoe := by omega
  simp only [e0, if_true, e1, e2]
  unfold yearStart
  clear h1 h2 e0 e1 e2
  omega

/-- The civil date of day `doy` of the March-based year `yoe` of era `era`. -/
def civilOf (era yoe doy : Nat) : Nat × Nat × Nat :=
  let mp := (5 * doy + 2) / 153
  let m := if mp < 10 then mp + 3 else mp - 9
  (if m ≤ 2 then yoe + era * 400 + 1 else yoe + era * 400, m, doy - (153 * mp + 2) / 5 + 1)

theorem civilFromDays_eq (z : Nat) :
    civilFromDays z = civilOf ((z + 719468) / 146097) (yoeOf ((z + 719468) % 146097))
      ((z + 719468) % 146097 - yearStart (yoeOf ((z + 719468) % 146097))) := by
  have : z + 719468 - (z + 719468) / 146097 * 146097 = (z + 719468) % 146097 := by omega
  rw [← this]; rfl

theorem mp_spec (doy mp : Nat) (h : (5 * doy + 2) / 153 = mp) :
    (153 * mp + 2) / 5 ≤ doy ∧ doy < (153 * (mp + 1) + 2) / 5 := by omega

theorem mp_of_march_to_december (mp : Nat) (h : mp < 10) : (((mp + 3 : Nat) : Int) + 9) % 12 = mp := by omega

theorem mp_of_january_february (mp : Nat) (h1 : 10 ≤ mp) (h2 : mp ≤ 11) :
    (((mp - 9 : Nat) : Int) + 9) % 12 = mp := by omega

theorem day_le (a b doy : Nat) (h1 : a ≤ doy) (h2 : doy < b) : doy - a + 1 ≤ b - a := by omega

theorem doe_eq (c a doy : Nat) (h : a ≤ doy) :
    ((c + a + (doy - a + 1) : Nat) : Int) - 719469 = ((c + doy : Nat) : Int) - 719468 := by omega

/-- Before 10000-01-01 (day 3652365 from 0000-03-01) the March-based year is below 10000, and below
9999 from January on. -/
theorem year_lt (era yoe doy : Nat) (hy : yoe ≤ 399) (h : era * 146097 + yearStart yoe + doy < 3652365) :
    yoe + era * 400 < 10000 ∧ (306 ≤ doy → yoe + era * 400 + 1 < 10000) := by
  have t9 : yoe = 399 → yearStart yoe = 145731 := fun h => by subst h; decide
  omega

theorem civilOf_spec (era yoe doy : Nat) (hy : yoe ≤ 399) (hd : doy < yearLen yoe) :
    1 ≤ (civilOf era yoe doy).2.1 ∧ (civilOf era yoe doy).2.1 ≤ 12 ∧ 1 ≤ (civilOf era yoe doy).2.2 ∧
    (civilOf era yoe doy).2.2 ≤ daysInMonth (civilOf era yoe doy).1 (civilOf era yoe doy).2.1 ∧
    daysFromCivil (civilOf era yoe doy).1 (civilOf era yoe doy).2.1 (civilOf era yoe doy).2.2 =
      ((era * 146097 + yearStart yoe + doy : Nat) : Int) - 719468 ∧
    (era * 146097 + yearStart yoe + doy < 3652365 → (civilOf era yoe doy).1 < 10000) := by
  unfold civilOf
  obtain ⟨hb1, hb2⟩ := mp_spec doy _ rfl
  have h11 : (5 * doy + 2) / 153 ≤ 11 := by
    have := (feb_le (yoe + 1)).2; unfold yearLen at hd; omega
  generalize (5 * doy + 2) / 153 = mp at *
  by_cases h10 : mp < 10
  · have h' : ¬ (mp + 3 ≤ 2) := by omega
    simp only [h10, h', if_true, if_false]
    rw [daysInMonth_march _ mp h10,
      daysFromCivil_eq _ _ _ era yoe mp hy (by simp only [h', if_false]) (mp_of_march_to_december mp h10)]
    exact ⟨Nat.le_add_left _ _, by omega, Nat.le_add_left _ _, day_le _ _ _ hb1 hb2, doe_eq _ _ _ hb1,
      fun h => (year_lt era yoe doy hy h).1⟩
  · have h' : mp - 9 ≤ 2 := by omega
    simp only [h10, h', if_true, if_false]
    rw [daysFromCivil_eq _ _ _ era yoe mp hy (by simp only [h', if_true]; omega)
      (mp_of_january_february mp (Nat.le_of_not_lt h10) h11)]
    rcases (by omega : mp = 10 ∨ mp = 11) with h | h <;> subst h
    · exact ⟨by decide, by decide, Nat.le_add_left _ _,
        by show _ ≤ 31; exact Nat.le_trans (day_le _ _ _ hb1 hb2) (by decide), doe_eq _ _ _ hb1,
        fun h => (year_lt era yoe doy hy h).2 hb1⟩
    · refine ⟨by decide, by decide, Nat.le_add_left _ _, ?_, doe_eq _ _ _ hb1,
        fun h => (year_lt era yoe doy hy h).2 (Nat.le_trans (by decide) hb1)⟩
      rw [Nat.add_right_comm, feb_era]
      exact Nat.le_trans (day_le _ _ _ hb1 hd) (Nat.le_of_eq (Nat.add_sub_cancel_left ..))

/-- Day 2932897 after 1970-01-01 is 10000-01-01 (`253402300800 = 2932897 * 86400` seconds, the bound of
`printDate_roundtrip`); `civilFromDays` counts from 0000-03-01, `719468` days earlier: `year_lt`. -/
theorem civilFromDays_spec (z : Nat) :
    1 ≤ (civilFromDays z).2.1 ∧ (civilFromDays z).2.1 ≤ 12 ∧ 1 ≤ (civilFromDays z).2.2 ∧
    (civilFromDays z).2.2 ≤ daysInMonth (civilFromDays z).1 (civilFromDays z).2.1 ∧
    daysFromCivil (civilFromDays z).1 (civilFromDays z).2.1 (civilFromDays z).2.2 = (z : Int) ∧
    (z < 2932897 → (civilFromDays z).1 < 10000) := by
  rw [civilFromDays_eq]
  obtain ⟨h1, h2, h3⟩ := yoe_spec ((z + 719468) % 146097) (Nat.mod_lt _ (by decide))
  have hz := Nat.div_add_mod (z + 719468) 146097
  generalize (z + 719468) / 146097 = era at *
  generalize (z + 719468) % 146097 = doe at *
  generalize yoeOf doe = yoe at *
  obtain ⟨c1, c2, c3, c4, c5, c6⟩ := civilOf_spec era yoe (doe - yearStart yoe) h1 (Nat.sub_lt_left_of_lt_add h2 h3)
  have e : era * 146097 + yearStart yoe + (doe - yearStart yoe) = z + 719468 := by omega
  rw [e] at c5 c6
  exact ⟨c1, c2, c3, c4, c5.trans (Int.add_sub_cancel (z : Int) 719468), fun hz' => c6 (Nat.add_lt_add_right hz' 719468)⟩

/-- `f` is a field of `k` digits that reads as `n`. -/
def IsField (k n : Nat) (f : List Char) : Prop := f.length = k ∧ f.all isDigit = true ∧ natOfDigits f = n

theorem IsField.zero_cons {k n : Nat} {f : List Char} (h : IsField k n f) : IsField (k + 1) n ('0' :: f) :=
  ⟨congrArg (· + 1) h.1, h.2.1, h.2.2⟩

theorem natDigits_field (n k : Nat) (hlo : k ≠ 0 → 10 ^ k ≤ n) (hhi : n < 10 ^ (k + 1)) :
    IsField (k + 1) n (natDigits n) := by
  refine ⟨Nat.le_antisymm ?_ ?_, natDigits_all n, natOfDigits_natDigits n⟩ <;> rw [natDigits_eq]
  · exact (Nat.length_toDigits_le_iff (by decide) (Nat.succ_pos k)).2 hhi
  · cases k with
    | zero => exact Nat.length_toDigits_pos
    | succ k =>
      exact Nat.lt_of_not_le fun hl => Nat.not_lt.2 (hlo (Nat.succ_ne_zero k))
        ((Nat.length_toDigits_le_iff (by decide) (Nat.succ_pos k)).1 hl)

theorem pad2_field (n : Nat) (h : n < 100) : IsField 2 n (pad2 n) := by
  unfold pad2; split
  · exact (natDigits_field n 0 (fun h => absurd rfl h) ‹_›).zero_cons
  · exact natDigits_field n 1 (fun _ => Nat.le_of_not_lt ‹_›) h

theorem pad4_field (n : Nat) (h : n < 10000) : IsField 4 n (pad4 n) := by
  unfold pad4; split
  · exact (natDigits_field n 0 (fun h => absurd rfl h) ‹_›).zero_cons.zero_cons.zero_cons
  · rename_i h1; split
    · exact (natDigits_field n 1 (fun _ => Nat.le_of_not_lt h1) ‹_›).zero_cons.zero_cons
    · rename_i h2; split
      · exact (natDigits_field n 2 (fun _ => Nat.le_of_not_lt h2) ‹_›).zero_cons
      · exact natDigits_field n 3 (fun _ => Nat.le_of_not_lt ‹_›) h

theorem takeDigits_field {k n : Nat} {f : List Char} (h : IsField k n f) (r : List Char) :
    takeDigits k (f ++ r) = some (f, r) := by
  obtain ⟨rfl, hd, -⟩ := h
  simp only [takeDigits, List.take_left, List.drop_left, hd, decide_true, Bool.and_self, if_true]

theorem stripLit_1 (c : Char) (r : List Char) : stripLit [c] (c :: r) = some r := by
  simp [stripLit]

theorem lexDate_fields {y mo d h mi s : Nat} {fy fmo fd fh fmi fs : List Char} (hy : IsField 4 y fy)
    (hmo : IsField 2 mo fmo) (hd : IsField 2 d fd) (hh : IsField 2 h fh) (hmi : IsField 2 mi fmi)
    (hs : IsField 2 s fs) :
    lexDate (fy ++ ['-'] ++ fmo ++ ['-'] ++ fd ++ ['T'] ++ fh ++ [':'] ++ fmi ++ [':'] ++ fs ++ ['Z']) =
      some (fy ++ ['-'] ++ fmo ++ ['-'] ++ fd ++ ['T'] ++ fh ++ [':'] ++ fmi ++ [':'] ++ fs ++ ['Z'], []) := by
  -- every `takeDigits` reads its field, every `stripLit` its mark; no fraction, zone `Z`
  simp only [lexDate, List.append_assoc, List.cons_append, List.nil_append, takeDigits_field hy,
    takeDigits_field hmo, takeDigits_field hd, takeDigits_field hh, takeDigits_field hmi, takeDigits_field hs,
    stripLit_1, Option.bind_eq_bind, Option.bind_some]
  rfl

theorem IsField.eq_four {n : Nat} {f : List Char} (h : IsField 4 n f) :
    ∃ a b c d, f = [a, b, c, d] ∧ natOfDigits [a, b, c, d] = n :=
  match f, h.1, h.2.2 with
  | [a, b, c, d], _, hn => ⟨a, b, c, d, rfl, hn⟩

theorem IsField.eq_two {n : Nat} {f : List Char} (h : IsField 2 n f) :
    ∃ a b, f = [a, b] ∧ natOfDigits [a, b] = n :=
  match f, h.1, h.2.2 with
  | [a, b], _, hn => ⟨a, b, rfl, hn⟩

theorem unixOfDate_fields {y mo d h mi s : Nat} {fy fmo fd fh fmi fs : List Char} (hy : IsField 4 y fy)
    (hmo : IsField 2 mo fmo) (hd : IsField 2 d fd) (hh : IsField 2 h fh) (hmi : IsField 2 mi fmi)
    (hs : IsField 2 s fs) (r1 : 1 ≤ mo) (r2 : mo ≤ 12) (r3 : 1 ≤ d) (r4 : d ≤ daysInMonth y mo)
    (r5 : h ≤ 23) (r6 : mi ≤ 59) (r7 : s ≤ 59) :
    unixOfDate (fy ++ ['-'] ++ fmo ++ ['-'] ++ fd ++ ['T'] ++ fh ++ [':'] ++ fmi ++ [':'] ++ fs ++ ['Z']) =
      some (daysFromCivil y mo d * 86400 + ((h * 3600 + mi * 60 + s : Nat) : Int)) := by
  obtain ⟨a1, a2, a3, a4, rfl, ny⟩ := hy.eq_four
  obtain ⟨a5, a6, rfl, nmo⟩ := hmo.eq_two
  obtain ⟨a7, a8, rfl, nd⟩ := hd.eq_two
  obtain ⟨a9, a10, rfl, nh⟩ := hh.eq_two
  obtain ⟨a11, a12, rfl, nmi⟩ := hmi.eq_two
  obtain ⟨a13, a14, rfl, ns⟩ := hs.eq_two
  simp [unixOfDate, ny, nmo, nd, nh, nmi, ns, Nat.not_lt.2 r1, Nat.not_lt.2 r2, Nat.not_lt.2 r3,
    Nat.not_lt.2 r4, Nat.not_lt.2 r5, Nat.not_lt.2 r6, Nat.not_lt.2 r7]

theorem tod_spec (r : Nat) (h : r < 86400) :
    r / 3600 ≤ 23 ∧ r % 3600 / 60 ≤ 59 ∧ r % 60 ≤ 59 ∧ r / 3600 * 3600 + r % 3600 / 60 * 60 + r % 60 = r := by
  omega

theorem printDate_eq (secs : Nat) :
    printDate secs = pad4 (civilFromDays (secs / 86400)).1 ++ ['-'] ++ pad2 (civilFromDays (secs / 86400)).2.1 ++
      ['-'] ++ pad2 (civilFromDays (secs / 86400)).2.2 ++ ['T'] ++ pad2 (secs % 86400 / 3600) ++ [':'] ++
      pad2 (secs % 86400 % 3600 / 60) ++ [':'] ++ pad2 (secs % 86400 % 60) ++ ['Z'] := rfl

/-- **Dates**: for every instant before the year 10000 the printed date is accepted completely by
the Date rule of the lexer and denotes the same instant. -/
theorem printDate_roundtrip (secs : Nat) (h : secs < 253402300800) :
    lexDate (printDate secs) = some (printDate secs, []) ∧ unixOfDate (printDate secs) = some (secs : Int) := by
  obtain ⟨s1, s2, s3, s4, s5, s6⟩ := civilFromDays_spec (secs / 86400)
  obtain ⟨t1, t2, t3, t4⟩ := tod_spec (secs % 86400) (Nat.mod_lt _ (by decide))
  have fy := pad4_field _ (s6 (by omega))
  have fm := pad2_field _ (Nat.lt_of_le_of_lt s2 (by decide))
  have fd := pad2_field _ (Nat.lt_of_le_of_lt (Nat.le_trans s4 (daysInMonth_le _ _)) (by decide))
  have fh := pad2_field _ (Nat.lt_of_le_of_lt t1 (by decide))
  have fmi := pad2_field _ (Nat.lt_of_le_of_lt t2 (by decide))
  have fs := pad2_field _ (Nat.lt_of_le_of_lt t3 (by decide))
  rw [printDate_eq]
  exact ⟨lexDate_fields fy fm fd fh fmi fs,
    (unixOfDate_fields fy fm fd fh fmi fs s1 s2 s3 s4 t1 t2 t3).trans
      (by rw [s5, t4]; exact congrArg (fun n : Nat => some (n : Int)) (Nat.div_add_mod' secs 86400))⟩

end Biscuit.PrintDates
