/-
Proofs/Pipeline — helper lemmas for C10: resolution does not panic; authorization does not panic,
since every run error it reports is an error of a run (`authorizeWith_runError_from` in
Proofs/Authorizer) and such an error is a limit or comes from an expression (`run_err_from` in
Proofs/Datalog; put together in `C10.authorize_no_panic`); the pipeline panics only if one of its
components does (`pipeline_no_panic_of`).
-/
import BiscuitModel.Model.Pipeline
import BiscuitModel.Proofs.Expr
import BiscuitModel.Proofs.Authorizer

namespace Biscuit
open Wire

theorem symStrGo_false_no_panic (t : SymTable) (i : Nat) : (symStrGo false t i).isPanic = false := by
  simp [symStrGo, Outcome.isPanic]

theorem mapMOutcome_no_panic {α β : Type} (f : α → Outcome β) (hf : ∀ a, (f a).isPanic = false) :
    ∀ l : List α, (mapMOutcome f l).isPanic = false := by
  intro l
  induction l with
  | nil => rfl
  | cons x xs ih =>
    simp only [mapMOutcome]
    exact Outcome.isPanic_bind (hf x) fun _ => Outcome.isPanic_bind ih fun _ => rfl

theorem resolveAtomL_no_panic (t : SymTable) (a : IAtom) : (resolveAtomL false t a).isPanic = false := by
  cases a with
  | «variable» n | string n =>
    simp only [resolveAtomL]
    exact Outcome.isPanic_bind (symStrGo_false_no_panic t n) fun _ => rfl
  | _ => rfl

theorem resolveTermL_no_panic (t : SymTable) (x : ITerm) : (resolveTermL false t x).isPanic = false := by
  cases x with
  | atom a =>
    cases a with
    | «variable» n =>
      simp only [resolveTermL]
      exact Outcome.isPanic_bind (symStrGo_false_no_panic t n) fun _ => rfl
    | _ =>
      simp only [resolveTermL]
      exact Outcome.isPanic_bind (resolveAtomL_no_panic t _) fun _ => rfl
  | set l =>
    simp only [resolveTermL]
    exact Outcome.isPanic_bind (mapMOutcome_no_panic _ (resolveAtomL_no_panic t) l) fun _ => rfl

theorem resolvePredL_no_panic (t : SymTable) (q : IPred) : (resolvePredL false t q).isPanic = false := by
  unfold resolvePredL
  exact Outcome.isPanic_bind (symStrGo_false_no_panic t _) fun _ =>
    Outcome.isPanic_bind (mapMOutcome_no_panic _ (resolveTermL_no_panic t) _) fun _ => rfl

theorem resolveFactL_no_panic (t : SymTable) (q : IPred) : (resolveFactL false t q).isPanic = false := by
  unfold resolveFactL
  exact Outcome.isPanic_bind (resolvePredL_no_panic t q) fun _ => rfl

theorem resolveOpL_no_panic (t : SymTable) (o : IOp) : (resolveOpL false t o).isPanic = false := by
  cases o with
  | value x =>
    simp only [resolveOpL]
    exact Outcome.isPanic_bind (resolveTermL_no_panic t x) fun _ => rfl
  | unary k => rfl
  | binary k => rfl

theorem resolveRuleL_no_panic (t : SymTable) (r : IRule) : (resolveRuleL false t r).isPanic = false := by
  unfold resolveRuleL
  exact Outcome.isPanic_bind (resolvePredL_no_panic t _) fun _ =>
    Outcome.isPanic_bind (mapMOutcome_no_panic _ (resolvePredL_no_panic t) _) fun _ =>
    Outcome.isPanic_bind
      (mapMOutcome_no_panic _ (fun e => mapMOutcome_no_panic _ (resolveOpL_no_panic t) e) _) fun _ => rfl

theorem resolveCheckL_no_panic (t : SymTable) (c : ICheck) : (resolveCheckL false t c).isPanic = false := by
  unfold resolveCheckL
  exact Outcome.isPanic_bind (mapMOutcome_no_panic _ (resolveRuleL_no_panic t) _) fun _ => rfl

theorem resolveBlockL_no_panic (t : SymTable) (m : BlockMsg) : (resolveBlockL false t m).isPanic = false := by
  unfold resolveBlockL
  exact Outcome.isPanic_bind (mapMOutcome_no_panic _ (resolveFactL_no_panic t) _) fun _ =>
    Outcome.isPanic_bind (mapMOutcome_no_panic _ (resolveRuleL_no_panic t) _) fun _ =>
    Outcome.isPanic_bind (mapMOutcome_no_panic _ (resolveCheckL_no_panic t) _) fun _ => rfl

theorem evalBool_no_panic (cfg : EvalCfg) (hs : cfg.sets = .loops) (σ : Bindings Val) (e : Expr) :
    (evalBool cfg σ e).isPanic = false := by
  unfold evalBool
  exact Outcome.isPanic_bind (eval_no_panic' cfg hs σ e) fun _ => rfl

/-- The pipeline's only sources of a panic are its three panicking components, for either
value of the two flags and every configuration. -/
theorem pipeline_no_panic_of (pStr pSeed : Bool) (S : SigScheme) (cfg : EvalCfg) (root bs : Bytes)
    (s : AuthState)
    (hseed : ∀ cur e, (verifyProofGo pSeed S cur e).isPanic = false)
    (hres : ∀ msgs, (resolveTokenL pStr msgs).isPanic = false)
    (hauth : ∀ tok site, (authorize cfg tok s).2 ≠ .runError (.panic site)) :
    (pipeline pStr pSeed S cfg root bs s).isPanic = false := by
  unfold pipeline
  split
  · rfl
  · split
    · rfl
    · split
      · rfl
      · refine Outcome.isPanic_bind (hseed _ _) fun pr => ?_
        split
        · rfl
        · refine Outcome.isPanic_bind (hres _) fun blocks => ?_
          split
          · rfl
          · split
            · next site hv => exact absurd hv (hauth _ site)
            · rfl

end Biscuit
