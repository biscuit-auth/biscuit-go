/-
Proofs/Datalog — the engine against its declarative reading (Spec/Datalog). `unifyTerms` and
`solve` enumerate exactly the satisfying substitutions (`solve_sound`, `solve_complete`); a rule
application and a round produce exactly the head instances (`applyRule_spec`, `stepAll_spec`);
a run that completes is the least model (`run_sound`, `run_complete`, `run_fixpoint`); a run only
adds facts and stays below the fact limit (`run_subset`, `run_ok_lt`); an error of a run is a limit
or comes from the evaluator or an unbound head variable (`run_err_from`).
-/
import BiscuitModel.Spec.Datalog

namespace Biscuit

-- `[DecidableEq V]` is in the statement of every lemma of its section, needed there or not
set_option linter.unusedSectionVars false

variable {V E : Type} [DecidableEq V]

theorem Bindings.lookup_nil (n : Bytes) : Bindings.lookup ([] : Bindings V) n = none := rfl

theorem Bindings.lookup_cons (k : Bytes) (v : V) (σ : Bindings V) (n : Bytes) :
    Bindings.lookup ((k, v) :: σ) n = if k = n then some v else Bindings.lookup σ n := rfl

/-- `τ` extends `σ`. -/
def Agree (σ τ : Bindings V) : Prop :=
  ∀ n v, Bindings.lookup σ n = some v → Bindings.lookup τ n = some v

theorem Agree.refl (σ : Bindings V) : Agree σ σ := fun _ _ h => h

theorem Agree.trans {σ τ ρ : Bindings V} (h₁ : Agree σ τ) (h₂ : Agree τ ρ) : Agree σ ρ :=
  fun n v h => h₂ n v (h₁ n v h)

theorem Agree.nil (σ : Bindings V) : Agree ([] : Bindings V) σ := by
  intro n v h; simp [Bindings.lookup_nil] at h

theorem Agree.of_cons {n : Bytes} {v : V} {σ τ : Bindings V}
    (hn : Bindings.lookup σ n = none) (h : Agree ((n, v) :: σ) τ) : Agree σ τ := by
  intro m w hm
  apply h
  rw [Bindings.lookup_cons]
  split
  · next heq => subst heq; rw [hn] at hm; cases hm
  · exact hm

theorem substTerms_mono {σ τ : Bindings V} (h : Agree σ τ) (ts : List (Term V)) (vs : List V)
    (hs : substTerms σ ts = some vs) : substTerms τ ts = some vs := by
  fun_induction substTerms σ ts generalizing vs
  case case1 => exact hs
  case case2 c ts ih =>
    obtain ⟨a, ha, rfl⟩ := Option.map_eq_some_iff.mp hs
    simp [substTerms, ih a ha]
  case case3 => cases hs
  case case4 n ts v hl ih =>
    obtain ⟨a, ha, rfl⟩ := Option.map_eq_some_iff.mp hs
    simp [substTerms, ih a ha, h n v hl]

theorem substTerms_congr {σ τ : Bindings V}
    (h : ∀ n, Bindings.lookup σ n = Bindings.lookup τ n) :
    ∀ ts : List (Term V), substTerms σ ts = substTerms τ ts
  | [] => rfl
  | .const c :: ts => by simp only [substTerms, substTerms_congr h ts]
  | .var n :: ts => by simp only [substTerms, substTerms_congr h ts, h n]

theorem substTerms_defined {σ : Bindings V} (ts : List (Term V)) (vs : List V)
    (hs : substTerms σ ts = some vs) : ∀ n ∈ termVars ts, ∃ v, Bindings.lookup σ n = some v := by
  fun_induction substTerms σ ts generalizing vs
  case case1 => simp [termVars]
  case case2 c ts ih =>
    obtain ⟨a, ha, _⟩ := Option.map_eq_some_iff.mp hs
    simpa [termVars] using ih a ha
  case case3 => cases hs
  case case4 m ts v hl ih =>
    obtain ⟨a, ha, _⟩ := Option.map_eq_some_iff.mp hs
    intro n hn
    rcases List.mem_cons.mp hn with rfl | hn
    · exact ⟨v, hl⟩
    · exact ih a ha n hn

theorem substHead_mono {σ τ : Bindings V} (h : Agree σ τ) (p : Pred V) (g : Fact V)
    (hs : substHead p σ = some g) : substHead p τ = some g := by
  simp only [substHead, Option.map_eq_some_iff] at hs ⊢
  obtain ⟨a, ha, rfl⟩ := hs
  exact ⟨a, substTerms_mono h _ _ ha, rfl⟩

theorem substHead_congr {σ τ : Bindings V}
    (h : ∀ n, Bindings.lookup σ n = Bindings.lookup τ n) (p : Pred V) :
    substHead p σ = substHead p τ := by
  simp only [substHead, substTerms_congr h]

theorem unifyTerms_sound (ts : List (Term V)) (vs : List V) (σ τ : Bindings V)
    (h : unifyTerms ts vs σ = some τ) :
    Agree σ τ ∧ substTerms τ ts = some vs ∧
      (∀ n v, Bindings.lookup τ n = some v → Bindings.lookup σ n = some v ∨ n ∈ termVars ts) := by
  -- cases: 1 both empty; 2, 3 constant, equal or not; 4, 5 bound variable, equal or not;
  -- 6 free variable; 7 different lengths
  fun_induction unifyTerms ts vs σ
  case case1 => cases h; exact ⟨Agree.refl _, rfl, fun n v hv => Or.inl hv⟩
  case case2 c ts vs σ ih =>
    obtain ⟨h1, h2, h3⟩ := ih h
    exact ⟨h1, by simp [substTerms, h2], fun n w hw => by simpa [termVars] using h3 n w hw⟩
  case case4 n ts vs σ w hw ih =>
    obtain ⟨h1, h2, h3⟩ := ih h
    refine ⟨h1, by simp [substTerms, h2, h1 n w hw], fun m u hu => ?_⟩
    exact (h3 m u hu).imp_right fun h' => by simp [termVars, h']
  case case6 n ts v vs σ hn ih =>
    obtain ⟨h1, h2, h3⟩ := ih h
    have hnv : Bindings.lookup τ n = some v := h1 n v (by simp [Bindings.lookup_cons])
    refine ⟨Agree.of_cons hn h1, by simp [substTerms, h2, hnv], fun m u hu => ?_⟩
    rcases h3 m u hu with h' | h'
    · rw [Bindings.lookup_cons] at h'
      split at h'
      · next heq => subst heq; exact Or.inr (by simp [termVars])
      · exact Or.inl h'
    · exact Or.inr (by simp [termVars, h'])
  all_goals cases h

theorem unifyTerms_complete (ts : List (Term V)) (vs : List V) (σ σ' : Bindings V)
    (hs : substTerms σ' ts = some vs) (ha : Agree σ σ') :
    ∃ τ, unifyTerms ts vs σ = some τ ∧ Agree τ σ' := by
  -- cases of `substTerms`: 1 no term left; 2 a constant; 3, 4 a variable, unbound or bound in `σ'`
  fun_induction substTerms σ' ts generalizing vs σ
  case case1 => cases hs; exact ⟨σ, rfl, ha⟩
  case case2 c ts ih =>
    obtain ⟨a, has, rfl⟩ := Option.map_eq_some_iff.mp hs
    obtain ⟨τ, h1, h2⟩ := ih a σ has ha
    exact ⟨τ, by simp [unifyTerms, h1], h2⟩
  case case3 => cases hs
  case case4 n ts v hl ih =>
    obtain ⟨a, has, rfl⟩ := Option.map_eq_some_iff.mp hs
    cases hσ : Bindings.lookup σ n with
    | some w =>
      obtain rfl : w = v := Option.some.inj ((ha n w hσ).symm.trans hl)
      obtain ⟨τ, h1, h2⟩ := ih a σ has ha
      exact ⟨τ, by simp [unifyTerms, hσ, h1], h2⟩
    | none =>
      have ha' : Agree ((n, v) :: σ) σ' := by
        intro m u hm
        rw [Bindings.lookup_cons] at hm
        split at hm
        · next heq => subst heq; cases hm; exact hl
        · exact ha m u hm
      obtain ⟨τ, h1, h2⟩ := ih a ((n, v) :: σ) has ha'
      exact ⟨τ, by simp [unifyTerms, hσ, h1], h2⟩

theorem unifyPred_sound (p : Pred V) (f : Fact V) (σ τ : Bindings V)
    (h : unifyPred p f σ = some τ) :
    Agree σ τ ∧ substHead p τ = some f ∧
      (∀ n v, Bindings.lookup τ n = some v →
        Bindings.lookup σ n = some v ∨ n ∈ termVars p.terms) := by
  simp only [unifyPred] at h
  split at h
  · next hn =>
    obtain ⟨h1, h2, h3⟩ := unifyTerms_sound _ _ _ _ h
    obtain ⟨name, args⟩ := f
    exact ⟨h1, by simp only [substHead, h2, Option.map_some, hn], h3⟩
  · cases h

theorem unifyPred_complete (p : Pred V) (f : Fact V) (σ σ' : Bindings V)
    (hs : substHead p σ' = some f) (ha : Agree σ σ') :
    ∃ τ, unifyPred p f σ = some τ ∧ Agree τ σ' := by
  simp only [substHead, Option.map_eq_some_iff] at hs
  obtain ⟨a, has, rfl⟩ := hs
  obtain ⟨τ, h1, h2⟩ := unifyTerms_complete _ _ σ σ' has ha
  exact ⟨τ, by simp [unifyPred, h1], h2⟩

theorem mem_bodyVars_cons (p : Pred V) (ps : List (Pred V)) (n : Bytes) :
    n ∈ bodyVars (p :: ps) ↔ n ∈ termVars p.terms ∨ n ∈ bodyVars ps := by
  simp [bodyVars]

theorem solve_sound (S : List (Fact V)) : ∀ (body : List (Pred V)) (σ τ : Bindings V),
    τ ∈ solve S body σ →
    Agree σ τ ∧ (∀ p ∈ body, ∃ g, substHead p τ = some g ∧ g ∈ S) ∧
      (∀ n v, Bindings.lookup τ n = some v →
        Bindings.lookup σ n = some v ∨ n ∈ bodyVars body) := by
  intro body
  induction body with
  | nil =>
    intro σ τ h
    simp only [solve, List.mem_singleton] at h
    subst h
    exact ⟨Agree.refl _, by simp, fun n v hv => Or.inl hv⟩
  | cons p ps ih =>
    intro σ τ h
    simp only [solve, List.mem_flatMap] at h
    obtain ⟨f, hf, hτ⟩ := h
    cases hu : unifyPred p f σ with
    | none => simp [hu] at hτ
    | some σ₁ =>
      rw [hu] at hτ
      obtain ⟨a1, a2, a3⟩ := unifyPred_sound p f σ σ₁ hu
      obtain ⟨b1, b2, b3⟩ := ih σ₁ τ hτ
      refine ⟨a1.trans b1, ?_, ?_⟩
      · intro q hq
        rcases List.mem_cons.mp hq with rfl | hq
        · exact ⟨f, substHead_mono b1 _ _ a2, hf⟩
        · exact b2 q hq
      · intro n v hv
        rw [mem_bodyVars_cons]
        rcases b3 n v hv with h' | h'
        · rcases a3 n v h' with h'' | h''
          · exact Or.inl h''
          · exact Or.inr (Or.inl h'')
        · exact Or.inr (Or.inr h')

theorem solve_complete (S : List (Fact V)) : ∀ (body : List (Pred V)) (σ σ' : Bindings V),
    (∀ p ∈ body, ∃ g, substHead p σ' = some g ∧ g ∈ S) → Agree σ σ' →
    ∃ τ, τ ∈ solve S body σ ∧ Agree τ σ' := by
  intro body
  induction body with
  | nil =>
    intro σ σ' _ ha
    exact ⟨σ, by simp [solve], ha⟩
  | cons p ps ih =>
    intro σ σ' hb ha
    obtain ⟨g, hg, hgS⟩ := hb p (List.mem_cons_self ..)
    obtain ⟨σ₁, h1, h2⟩ := unifyPred_complete p g σ σ' hg ha
    obtain ⟨τ, h3, h4⟩ := ih σ₁ σ' (fun q hq => hb q (List.mem_cons_of_mem _ hq)) h2
    refine ⟨τ, ?_, h4⟩
    simp only [solve, List.mem_flatMap]
    exact ⟨g, hgS, by rw [h1]; exact h3⟩

theorem body_defined (body : List (Pred V)) (σ : Bindings V)
    (h : ∀ p ∈ body, ∃ g, substHead p σ = some g) :
    ∀ n ∈ bodyVars body, ∃ v, Bindings.lookup σ n = some v := by
  intro n hn
  simp only [bodyVars, List.mem_flatMap] at hn
  obtain ⟨p, hp, hnp⟩ := hn
  obtain ⟨g, hg⟩ := h p hp
  simp only [substHead, Option.map_eq_some_iff] at hg
  obtain ⟨a, ha, _⟩ := hg
  exact substTerms_defined _ _ ha n hnp

theorem lookup_eq_of_agree (body : List (Pred V)) (τ σ' : Bindings V)
    (ha : Agree τ σ')
    (hdef : ∀ n ∈ bodyVars body, ∃ v, Bindings.lookup τ n = some v)
    (hdom : ∀ n v, Bindings.lookup σ' n = some v → n ∈ bodyVars body) :
    ∀ n, Bindings.lookup τ n = Bindings.lookup σ' n := by
  intro n
  cases h' : Bindings.lookup σ' n with
  | some v =>
    obtain ⟨w, hw⟩ := hdef n (hdom n v h')
    have := ha n w hw
    rw [h'] at this
    rw [hw, this]
  | none =>
    cases hτ : Bindings.lookup τ n with
    | none => rfl
    | some w =>
      have := ha n w hτ
      rw [h'] at this
      cases this

theorem checkExprs_congr (ev : Bindings V → E → Outcome Bool) (hev : EvRespects ev)
    {σ τ : Bindings V} (h : ∀ n, Bindings.lookup σ n = Bindings.lookup τ n) :
    ∀ es : List E, checkExprs ev σ es = checkExprs ev τ es
  | [] => rfl
  | e :: es => by
    simp only [checkExprs, hev σ τ h e, checkExprs_congr ev hev h es]

theorem mem_insertFact (s : List (Fact V)) (g f : Fact V) :
    f ∈ insertFact s g ↔ f ∈ s ∨ f = g := by
  unfold insertFact
  split
  · next hc =>
    have hg : g ∈ s := by simpa using hc
    constructor
    · exact Or.inl
    · rintro (h | rfl)
      · exact h
      · exact hg
  · simp

theorem nodup_insertFact (s : List (Fact V)) (g : Fact V) (hs : s.Nodup) :
    (insertFact s g).Nodup := by
  unfold insertFact
  split
  · exact hs
  · next hc =>
    have hg : g ∉ s := by simpa using hc
    rw [List.nodup_append]
    refine ⟨hs, by simp, ?_⟩
    intro a ha b hb
    simp only [List.mem_singleton] at hb
    subst hb
    intro heq; subst heq; exact hg ha

theorem mem_insertAll : ∀ (new s : List (Fact V)) (f : Fact V),
    f ∈ insertAll s new ↔ f ∈ s ∨ f ∈ new
  | [], s, f => by simp [insertAll]
  | g :: gs, s, f => by
    simp only [insertAll, mem_insertAll gs, mem_insertFact, List.mem_cons, or_assoc]

theorem nodup_insertAll : ∀ (new s : List (Fact V)), s.Nodup → (insertAll s new).Nodup
  | [], s, hs => by simpa [insertAll] using hs
  | g :: gs, s, hs => by
    simp only [insertAll]
    exact nodup_insertAll gs _ (nodup_insertFact s g hs)

theorem insertFact_prefix (s : List (Fact V)) (g : Fact V) : s <+: insertFact s g := by
  unfold insertFact
  split
  · exact List.prefix_refl s
  · exact List.prefix_append s [g]

theorem insertAll_prefix : ∀ (new s : List (Fact V)), s <+: insertAll s new
  | [], s => List.prefix_refl s
  | g :: gs, s => (insertFact_prefix s g).trans (insertAll_prefix gs (insertFact s g))

theorem insertAll_eq_of_length (s new : List (Fact V))
    (h : (insertAll s new).length = s.length) : insertAll s new = s :=
  ((insertAll_prefix new s).eq_of_length h.symm).symm

theorem insertFact_of_mem (s : List (Fact V)) (g : Fact V) (h : g ∈ s) : insertFact s g = s := by
  unfold insertFact
  rw [if_pos (by simpa using h)]

theorem insertAll_of_subset : ∀ (new s : List (Fact V)), (∀ f ∈ new, f ∈ s) → insertAll s new = s
  | [], s, _ => rfl
  | g :: gs, s, h => by
    rw [insertAll, insertFact_of_mem s g (h g (List.mem_cons_self ..))]
    exact insertAll_of_subset gs s (fun f hf => h f (List.mem_cons_of_mem _ hf))

theorem applyCombos_spec (ev : Bindings V → E → Outcome Bool) (r : Rule V E)
    (cs : List (Bindings V)) (acc out : List (Fact V))
    (h : applyCombos ev r cs acc = (out, none)) (f : Fact V) :
    f ∈ out ↔ f ∈ acc ∨
      ∃ σ, σ ∈ cs ∧ checkExprs ev σ r.exprs = .ok true ∧ substHead r.head σ = some f := by
  -- cases of `applyCombos`: 1 no combination left; 2, 3 the expressions err or panic;
  -- 4 they are not all true; 5 the head is not instantiated; 6 a fact is produced
  fun_induction applyCombos ev r cs acc
  case case1 => cases h; simp
  case case4 hc ih => rw [ih h]; simp [or_and_right, exists_or, hc]
  case case6 σ rest acc hc g hg ih =>
    rw [ih h, mem_insertFact]
    simp [or_and_right, exists_or, hc, hg, or_assoc, eq_comm]
  all_goals cases (Prod.mk.inj h).2

theorem applyRule_spec (ev : Bindings V → E → Outcome Bool) (hev : EvRespects ev)
    (r : Rule V E) (S acc out : List (Fact V))
    (h : applyRule ev r S acc = (out, none)) (f : Fact V) :
    f ∈ out ↔ f ∈ acc ∨ ∃ σ, Sat ev r S σ ∧ instPred r.head σ = some f := by
  unfold applyRule at h
  rw [applyCombos_spec ev r _ acc out h f]
  constructor
  · rintro (h' | ⟨τ, hτ, h1, h2⟩)
    · exact Or.inl h'
    · obtain ⟨_, b2, b3⟩ := solve_sound S r.body [] τ hτ
      refine Or.inr ⟨τ, ⟨b2, ?_, h1⟩, h2⟩
      intro n v hv
      rcases b3 n v hv with h'' | h''
      · simp [Bindings.lookup_nil] at h''
      · exact h''
  · rintro (h' | ⟨σ', hsat, hhead⟩)
    · exact Or.inl h'
    · obtain ⟨τ, hτ, hag⟩ := solve_complete S r.body [] σ' hsat.body (Agree.nil _)
      obtain ⟨_, b2, _⟩ := solve_sound S r.body [] τ hτ
      have hdef := body_defined r.body τ (fun p hp => (b2 p hp).imp fun g hg => hg.1)
      have heq := lookup_eq_of_agree r.body τ σ' hag hdef hsat.dom
      refine Or.inr ⟨τ, hτ, ?_, ?_⟩
      · rw [checkExprs_congr ev hev heq]; exact hsat.exprs
      · rw [substHead_congr heq]; exact hhead

theorem mem_queryRule (ev : Bindings V → E → Outcome Bool) (hev : EvRespects ev)
    (r : Rule V E) (S : List (Fact V))
    (h : (applyRule ev r S []).2 = none) (f : Fact V) :
    f ∈ queryRule ev r S ↔ ∃ σ, Sat ev r S σ ∧ instPred r.head σ = some f := by
  have := applyRule_spec ev hev r S [] _
    (Prod.ext rfl h : applyRule ev r S [] = (queryRule ev r S, none)) f
  simpa using this

theorem stepAll_spec (ev : Bindings V → E → Outcome Bool) (hev : EvRespects ev)
    (S : List (Fact V)) (P : List (Rule V E)) (acc out : List (Fact V))
    (h : stepAll ev S P acc = (out, none)) (f : Fact V) :
    f ∈ out ↔ f ∈ acc ∨ ∃ r, r ∈ P ∧ ∃ σ, Sat ev r S σ ∧ instPred r.head σ = some f := by
  fun_induction stepAll ev S P acc
  case case1 => cases h; simp
  case case2 r rs acc acc' hr ih =>
    rw [ih h, applyRule_spec ev hev r S acc acc' hr f]
    simp [or_and_right, exists_or, or_assoc]
  case case3 => cases (Prod.mk.inj h).2

/-! Facts about `run` go by its functional induction principle, one case per way a round can
end: 1 no fuel left, 2 a rule errs, 3 fact limit reached, 4 nothing new (fixpoint), 5 another
round. The `let facts' := …` of the definition stays a local definition in the cases, so the
hypothesis `run … = (W, e)` is taken apart with `Prod.mk.inj`, not with `cases`. -/

theorem run_invariant (ev : Bindings V → E → Outcome Bool)
    (maxFacts : Nat) (P : List (Rule V E)) (Q : List (Fact V) → Prop)
    (hstep : ∀ S new, Q S → stepAll ev S P [] = (new, none) → Q (insertAll S new))
    (n : Nat) (F W : List (Fact V)) (hQ : Q F) (h : run ev maxFacts P n F = (W, none)) : Q W := by
  fun_induction run ev maxFacts P n F generalizing W
  case case4 hs _ _ _ => obtain ⟨rfl, _⟩ := Prod.mk.inj h; exact hstep _ _ hQ hs
  case case5 hs _ _ _ ih => exact ih W (hstep _ _ hQ hs) h
  all_goals cases (Prod.mk.inj h).2

theorem run_fixpoint (ev : Bindings V → E → Outcome Bool)
    (maxFacts : Nat) (P : List (Rule V E)) (n : Nat) (F W : List (Fact V))
    (h : run ev maxFacts P n F = (W, none)) :
    ∃ new, stepAll ev W P [] = (new, none) ∧ ∀ f ∈ new, f ∈ W := by
  fun_induction run ev maxFacts P n F generalizing W
  case case4 n F new hs facts' _ hlen =>
    obtain ⟨rfl, _⟩ := Prod.mk.inj h
    have heq : facts' = F := insertAll_eq_of_length F new hlen
    exact ⟨new, heq ▸ hs, fun f hf => (mem_insertAll ..).2 (.inr hf)⟩
  case case5 ih => exact ih W h
  all_goals cases (Prod.mk.inj h).2

theorem run_subset (ev : Bindings V → E → Outcome Bool) (mf : Nat) (P : List (Rule V E))
    (n : Nat) (F W : List (Fact V)) (e : Option RunErr)
    (h : run ev mf P n F = (W, e)) : ∀ f ∈ F, f ∈ W := by
  fun_induction run ev mf P n F generalizing W e
  case case1 | case2 => obtain ⟨rfl, _⟩ := Prod.mk.inj h; exact fun _ hf => hf
  case case3 | case4 =>
    obtain ⟨rfl, _⟩ := Prod.mk.inj h
    exact fun f hf => (mem_insertAll ..).2 (.inl hf)
  case case5 ih => exact fun f hf => ih W e h f ((mem_insertAll ..).2 (.inl hf))

theorem run_ok_lt (ev : Bindings V → E → Outcome Bool) (mf : Nat) (P : List (Rule V E))
    (n : Nat) (F W : List (Fact V)) (h : run ev mf P n F = (W, none)) : W.length < mf := by
  fun_induction run ev mf P n F generalizing W
  case case4 hlt _ => obtain ⟨rfl, _⟩ := Prod.mk.inj h; exact Nat.lt_of_not_ge hlt
  case case5 ih => exact ih W h
  all_goals cases (Prod.mk.inj h).2

theorem derivable_least (ev : Bindings V → E → Outcome Bool)
    (P : List (Rule V E)) (F : List (Fact V)) (M : Fact V → Prop)
    (hbase : ∀ f ∈ F, M f)
    (hclosed : ∀ r ∈ P, ∀ σ f,
      (∀ p ∈ r.body, ∃ g, instPred p σ = some g ∧ M g) →
      (∀ n v, σ.lookup n = some v → n ∈ bodyVars r.body) →
      checkExprs ev σ r.exprs = .ok true →
      instPred r.head σ = some f → M f) :
    ∀ f, Derivable ev P F f → M f := by
  intro f hd
  induction hd with
  | base hf => exact hbase _ hf
  | rule hr hsome _ hdom hex hhead ih =>
    refine hclosed _ hr _ _ ?_ hdom hex hhead
    intro p hp
    have := hsome p hp
    rw [Option.isSome_iff_exists] at this
    obtain ⟨g, hg⟩ := this
    exact ⟨g, hg, ih p hp g hg⟩

/-- Fewer rules, and start facts that are all derivable: everything derivable stays derivable. -/
theorem derivable_trans (ev : Bindings V → E → Outcome Bool) {P P' : List (Rule V E)}
    {F F' : List (Fact V)} (hP : ∀ r ∈ P', r ∈ P) (hF' : ∀ g ∈ F', Derivable ev P F g) :
    ∀ f, Derivable ev P' F' f → Derivable ev P F f := by
  intro f hd
  induction hd with
  | base hf => exact hF' _ hf
  | rule hr hsome _ hdom hex hhead ih =>
    exact Derivable.rule (hP _ hr) hsome ih hdom hex hhead

theorem Derivable.mono_facts {ev : Bindings V → E → Outcome Bool} {P : List (Rule V E)}
    {F F' : List (Fact V)} (hF : ∀ g ∈ F, g ∈ F') : ∀ f, Derivable ev P F f → Derivable ev P F' f :=
  derivable_trans ev (fun _ hr => hr) (fun g hg => Derivable.base (hF g hg))

theorem run_sound (ev : Bindings V → E → Outcome Bool) (hev : EvRespects ev)
    (maxFacts : Nat) (P : List (Rule V E)) (maxIter : Nat) (F W : List (Fact V))
    (h : run ev maxFacts P maxIter F = (W, none)) :
    ∀ f ∈ W, Derivable ev P F f := by
  refine run_invariant ev maxFacts P (fun S => ∀ f ∈ S, Derivable ev P F f) ?_
    maxIter F W (fun f hf => Derivable.base hf) h
  intro S new hS hs f hf
  rw [mem_insertAll] at hf
  rcases hf with hf | hf
  · exact hS f hf
  · rw [stepAll_spec ev hev S P [] new hs f] at hf
    rcases hf with hf | ⟨r, hr, σ, hsat, hhead⟩
    · cases hf
    · apply derivable_trans ev (fun _ hr => hr) hS
      refine Derivable.rule hr ?_ ?_ hsat.dom hsat.exprs hhead
      · intro p hp
        obtain ⟨g, hg, _⟩ := hsat.body p hp
        simp [hg]
      · intro p hp g hg
        obtain ⟨g', hg', hmem⟩ := hsat.body p hp
        rw [hg] at hg'
        cases hg'
        exact Derivable.base hmem

theorem run_complete (ev : Bindings V → E → Outcome Bool) (hev : EvRespects ev)
    (maxFacts : Nat) (P : List (Rule V E)) (maxIter : Nat) (F W : List (Fact V))
    (h : run ev maxFacts P maxIter F = (W, none)) :
    ∀ f, Derivable ev P F f → f ∈ W := by
  obtain ⟨new, hs, hnew⟩ := run_fixpoint ev maxFacts P maxIter F W h
  apply derivable_least ev P F (fun f => f ∈ W) (run_subset ev maxFacts P maxIter F W none h)
  intro r hr σ f hbody hdom hex hhead
  apply hnew
  rw [stepAll_spec ev hev W P [] new hs f]
  exact Or.inr ⟨r, hr, σ, ⟨hbody, hdom, hex⟩, hhead⟩

theorem run_nodup (ev : Bindings V → E → Outcome Bool)
    (maxFacts : Nat) (P : List (Rule V E)) (maxIter : Nat) (F W : List (Fact V))
    (hF : F.Nodup) (h : run ev maxFacts P maxIter F = (W, none)) : W.Nodup := by
  refine run_invariant ev maxFacts P (fun S => S.Nodup) ?_ maxIter F W hF h
  intro S new hS _
  exact nodup_insertAll new S hS

/-- Where an error of the rule loop can come from: an expression that evaluated to that
error or panic, or a head variable the body does not bind. Never a run limit. -/
def RunErr.FromEval (ev : Bindings V → E → Outcome Bool) : RunErr → Prop
  | .expr c => ∃ σ e, ev σ e = .err c
  | .panic s => ∃ σ e, ev σ e = .panic s
  | .invalidRule => True
  | _ => False

omit [DecidableEq V] in
theorem checkExprs_from (ev : Bindings V → E → Outcome Bool) (σ : Bindings V) (es : List E) :
    (∀ c, checkExprs ev σ es = .err c → ∃ e, ev σ e = .err c) ∧
    (∀ s, checkExprs ev σ es = .panic s → ∃ e, ev σ e = .panic s) := by
  fun_induction checkExprs ev σ es with
  | case1 => exact ⟨nofun, nofun⟩
  | case2 e es he ih => exact ih
  | case3 e es he => exact ⟨nofun, nofun⟩
  | case4 e es c hc => exact ⟨fun c' h => ⟨e, hc.trans h⟩, nofun⟩
  | case5 e es s hs => exact ⟨nofun, fun s' h => ⟨e, hs.trans h⟩⟩

theorem applyCombos_err_from (ev : Bindings V → E → Outcome Bool) (r : Rule V E)
    (cs : List (Bindings V)) (acc out : List (Fact V)) (e : RunErr)
    (h : applyCombos ev r cs acc = (out, some e)) : e.FromEval ev := by
  fun_induction applyCombos ev r cs acc with
  | case1 => cases h
  | case2 σ _ _ c hc => cases h; exact ⟨σ, (checkExprs_from ev σ _).1 c hc⟩
  | case3 σ _ _ s hs => cases h; exact ⟨σ, (checkExprs_from ev σ _).2 s hs⟩
  | case4 _ _ _ _ ih => exact ih h
  | case5 => cases h; trivial
  | case6 _ _ _ _ _ _ ih => exact ih h

theorem stepAll_err_from (ev : Bindings V → E → Outcome Bool) (S : List (Fact V))
    (P : List (Rule V E)) (acc out : List (Fact V)) (e : RunErr)
    (h : stepAll ev S P acc = (out, some e)) : e.FromEval ev := by
  fun_induction stepAll ev S P acc
  case case1 => cases h
  case case2 ih => exact ih h
  case case3 r _ _ _ _ hr => cases h; exact applyCombos_err_from ev r _ _ _ _ hr

theorem run_err_from (ev : Bindings V → E → Outcome Bool) (mf : Nat) (P : List (Rule V E))
    (mi : Nat) (F W : List (Fact V)) (e : RunErr) (h : run ev mf P mi F = (W, some e)) :
    e = .limitIter ∨ e = .limitFacts ∨ e.FromEval ev := by
  fun_induction run ev mf P mi F with
  | case1 => cases h; exact Or.inl rfl
  | case2 _ _ _ _ hst => cases h; exact Or.inr (Or.inr (stepAll_err_from ev _ P _ _ _ hst))
  | case3 => injection h with _ h; cases h; exact Or.inr (Or.inl rfl)
  | case4 => injection h with _ h; cases h
  | case5 _ _ _ _ _ _ _ ih => exact ih h

omit [DecidableEq V] in
theorem RunErr.FromEval.not_panic {ev : Bindings V → E → Outcome Bool}
    (hev : ∀ σ e, (ev σ e).isPanic = false) {site : PanicSite} : ¬ RunErr.FromEval ev (.panic site) :=
  fun ⟨σ, e, h⟩ => by have := hev σ e; rw [h] at this; cases this

/-! The engine's own evaluator meets `EvRespects`. (Here because Proofs/Expr does not import the
specification.) -/

theorem stepOp_congr (cfg : EvalCfg) {σ τ : Bindings Val}
    (h : ∀ n, Bindings.lookup σ n = Bindings.lookup τ n) (st : List Val) (op : Op) :
    stepOp cfg σ st op = stepOp cfg τ st op := by
  cases op with
  | value t =>
    cases t with
    | var n => simp only [stepOp, h n]
    | const v => simp only [stepOp]
  | unary u => simp only [stepOp]
  | binary b => simp only [stepOp]

theorem runOps_congr (cfg : EvalCfg) {σ τ : Bindings Val}
    (h : ∀ n, Bindings.lookup σ n = Bindings.lookup τ n) :
    ∀ (ops : List Op) (st : List Val), runOps cfg σ ops st = runOps cfg τ ops st
  | [], _ => rfl
  | op :: ops, st => by
    simp only [runOps, stepOp_congr cfg h st op]
    congr 1
    funext st'
    exact runOps_congr cfg h ops st'

theorem evalBool_respects (cfg : EvalCfg) : EvRespects (evalBool cfg) := by
  intro σ τ h e
  simp only [evalBool, eval, runOps_congr cfg h e []]

end Biscuit
