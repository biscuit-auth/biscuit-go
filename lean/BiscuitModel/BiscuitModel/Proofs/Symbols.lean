/-
Proofs/Symbols — symbol tables, interning against resolution (C07, C18 wire level).

An interning function only grows the table, in the way `Extend` adds the new strings back
(`GrowsTo`), and what it returns resolves to its argument in the table it leaves and in every
extension of it (`Interns`). Neither needs a hypothesis on the starting table. Both pass
through the lists (`Interns.list`) and the fixed sequences (terms then name; body,
expressions, head; facts, rules, checks), up to `buildBlockMsg_resolves` and
`sym_build_then_resolve`.
-/
import BiscuitModel.Model.Unmarshal
import BiscuitModel.Spec.WireWF
import BiscuitModel.Proofs.ListOption

namespace Biscuit
open Wire

theorem sym_unary_code_roundtrip (u : UnOp) : unaryOfCode (unaryCode u) = some u := by
  cases u <;> rfl

theorem sym_binary_code_roundtrip (b : BinOp) : binaryOfCode (binaryCode b) = some b := by
  cases b <;> rfl

theorem sym_policyKind_roundtrip (k : PolicyKind) : policyKindOfCode (policyKindCode k) = some k := by
  cases k <;> rfl

theorem sym_version_gate (v : Option Nat) : versionOk v = true ↔ v = some 3 := by
  cases v with
  | none => simp [versionOk, minSchemaVersion, maxSchemaVersion]
  | some n =>
    simp only [versionOk, minSchemaVersion, maxSchemaVersion, Option.getD_some, Bool.and_eq_true,
      Option.some.injEq]
    constructor
    · rintro ⟨h1, h2⟩
      have := of_decide_eq_true h1; have := of_decide_eq_true h2; omega
    · intro h; subst h; exact ⟨rfl, rfl⟩

theorem sym_defaultSymbols_length : defaultSymbols.length = 28 := by
  simp [defaultSymbols, defaultSymbolNames]

theorem symStr_default {i : Nat} (h : i < symOffset) (t : SymTable) : symStr t i = defaultSymbols[i]? :=
  if_pos h

theorem symStr_offset (t : SymTable) (j : Nat) : symStr t (symOffset + j) = t[j]? := by
  rw [symStr, if_neg (by omega), Nat.add_sub_cancel_left]

theorem sym_append_prefix_stable (t ext : SymTable) (i : Nat) (x : Bytes) (h : symStr t i = some x) :
    symStr (t ++ ext) i = some x := by
  unfold symStr at h ⊢
  by_cases hi : i < symOffset
  · rwa [if_pos hi] at h ⊢
  · rw [if_neg hi] at h ⊢
    rwa [List.getElem?_append_left (List.getElem?_eq_some_iff.mp h).1]

theorem sym_symIndex_some {t : SymTable} {s : Bytes} {i : Nat} (h : symIndex t s = some i) :
    symStr t i = some s := by
  unfold symIndex at h
  cases hd : defaultSymbols.idxOf? s with
  | some j =>
    rw [hd] at h; cases h
    obtain ⟨hlt, hj, _⟩ := List.idxOf?_eq_some_iff.mp hd
    rw [symStr_default (by rw [sym_defaultSymbols_length] at hlt; unfold symOffset; omega),
      List.getElem?_eq_getElem hlt, hj]
  | none =>
    rw [hd] at h
    obtain ⟨j, hj, rfl⟩ := Option.map_eq_some_iff.mp h
    obtain ⟨hlt, hs, _⟩ := List.idxOf?_eq_some_iff.mp hj
    rw [Nat.add_comm, symStr_offset, List.getElem?_eq_getElem hlt, hs]

theorem symIndex_eq_none_iff {t : SymTable} {s : Bytes} :
    symIndex t s = none ↔ s ∉ defaultSymbols ∧ s ∉ t := by
  unfold symIndex
  cases hd : defaultSymbols.idxOf? s with
  | some i =>
    have hm : s ∈ defaultSymbols := List.isSome_idxOf?.mp (hd ▸ rfl)
    simp [hm]
  | none => simp [List.idxOf?_eq_none_iff.mp hd, List.idxOf?_eq_none_iff]

theorem symInsert_of_some {t : SymTable} {s : Bytes} {i : Nat} (h : symIndex t s = some i) :
    symInsert t s = (t, i) := by
  simp [symInsert, h]

theorem symInsert_of_none {t : SymTable} {s : Bytes} (h : symIndex t s = none) :
    symInsert t s = (t ++ [s], symOffset + t.length) := by
  simp [symInsert, h]

theorem symInsert_symStr (t : SymTable) (s : Bytes) : symStr (symInsert t s).1 (symInsert t s).2 = some s := by
  cases h : symIndex t s with
  | some i => rw [symInsert_of_some h]; exact sym_symIndex_some h
  | none =>
    rw [symInsert_of_none h, symStr_offset]
    simp

theorem extendTable_cons (t : SymTable) (s : Bytes) (e : List Bytes) :
    extendTable t (s :: e) = extendTable (symInsert t s).1 e := rfl

theorem extendTable_append (t : SymTable) (a b : List Bytes) :
    extendTable t (a ++ b) = extendTable (extendTable t a) b := by
  simp [extendTable, List.foldl_append]

theorem symInsert_length_le (t : SymTable) (s : Bytes) : (symInsert t s).1.length ≤ t.length + 1 := by
  cases h : symIndex t s with
  | some i => rw [symInsert_of_some h]; exact Nat.le_succ _
  | none => rw [symInsert_of_none h]; simp

theorem extendTable_length_le (e : List Bytes) : ∀ t : SymTable,
    (extendTable t e).length ≤ t.length + e.length := by
  induction e with
  | nil => intro t; exact Nat.le_refl _
  | cons s e ih =>
    intro t
    rw [extendTable_cons]
    have h1 := ih (symInsert t s).1
    have h2 := symInsert_length_le t s
    simp only [List.length_cons]
    omega

theorem freshSymbols_iff {t : SymTable} {new : List Bytes} :
    freshSymbols t new = true ↔ (∀ s ∈ new, s ∉ defaultSymbols ∧ s ∉ t) ∧ new.Nodup := by
  simp [freshSymbols]

/-- `Extend` adds every string of `ext` (skips none) exactly when each of them is new when its
turn comes: not a default symbol, not in the table, not earlier in `ext`. -/
theorem extendTable_eq_append_iff (ext : List Bytes) : ∀ t : SymTable,
    extendTable t ext = t ++ ext ↔ freshSymbols t ext = true := by
  induction ext with
  | nil => intro t; simp [extendTable, freshSymbols]
  | cons s e ih =>
    intro t
    rw [extendTable_cons]
    cases hn : symIndex t s with
    | some i =>
      -- `s` is skipped, so the result is too short to be `t ++ s :: e`
      rw [symInsert_of_some hn]
      have hl := extendTable_length_le e t
      have hnot : ¬ (s ∉ defaultSymbols ∧ s ∉ t) := fun h => by
        rw [symIndex_eq_none_iff.mpr h] at hn; cases hn
      constructor
      · intro h; rw [h] at hl; simp only [List.length_append, List.length_cons] at hl; omega
      · intro h; exact absurd ((freshSymbols_iff.mp h).1 s List.mem_cons_self) hnot
    | none =>
      obtain ⟨hd, ht⟩ := symIndex_eq_none_iff.mp hn
      rw [symInsert_of_none hn, show t ++ s :: e = (t ++ [s]) ++ e by simp, ih (t ++ [s])]
      simp only [freshSymbols_iff, List.forall_mem_cons, List.mem_append, List.mem_singleton, List.nodup_cons,
        not_or]
      constructor
      · rintro ⟨h1, h2⟩
        exact ⟨⟨⟨hd, ht⟩, fun x hx => ⟨(h1 x hx).1, (h1 x hx).2.1⟩⟩, fun hs => (h1 s hs).2.2 rfl, h2⟩
      · rintro ⟨⟨_, h1⟩, hs, h2⟩
        exact ⟨fun x hx => ⟨(h1 x hx).1, (h1 x hx).2, fun hxs => hs (hxs ▸ hx)⟩, h2⟩

theorem extendTable_eq_append_fresh (ext : List Bytes) (t : SymTable) (h : extendTable t ext = t ++ ext) :
    (∀ s ∈ ext, s ∉ defaultSymbols ∧ s ∉ t) ∧ ext.Nodup :=
  freshSymbols_iff.mp ((extendTable_eq_append_iff ext t).mp h)

theorem extendTable_of_fresh (new : List Bytes) (t : SymTable) (h : freshSymbols t new = true) :
    extendTable t new = t ++ new :=
  (extendTable_eq_append_iff new t).mpr h

/-- `t'` is `t` plus strings that `Extend` would add back one by one, in the same order. -/
def GrowsTo (t t' : SymTable) : Prop := ∃ ext, t' = t ++ ext ∧ extendTable t ext = t'

theorem GrowsTo.refl (t : SymTable) : GrowsTo t t := ⟨[], by simp, rfl⟩

theorem GrowsTo.trans {a b c : SymTable} (h1 : GrowsTo a b) (h2 : GrowsTo b c) : GrowsTo a c := by
  obtain ⟨e1, hb, h1⟩ := h1
  obtain ⟨e2, hc, h2⟩ := h2
  refine ⟨e1 ++ e2, by rw [hc, hb, List.append_assoc], ?_⟩
  rw [extendTable_append, h1, h2]

theorem GrowsTo.prefix {t t' : SymTable} (h : GrowsTo t t') : ∃ ext, t' = t ++ ext := by
  obtain ⟨e, he, _⟩ := h
  exact ⟨e, he⟩

/-- What `SplitOff` takes — the strings after the first `t.length` — is what was added. -/
theorem GrowsTo.append_drop {t t' : SymTable} (h : GrowsTo t t') : t ++ t'.drop t.length = t' := by
  obtain ⟨e, he⟩ := h.prefix
  rw [he, List.drop_left]

/-- The strings a block declares (`SplitOff`: the final table without its first
`t.length` entries) rebuild the final table when `Extend`ed onto the starting one. -/
theorem GrowsTo.extend_drop {t t' : SymTable} (h : GrowsTo t t') :
    extendTable t (t'.drop t.length) = t' := by
  obtain ⟨e, he, hx⟩ := h
  rw [he, List.drop_left, ← he]
  exact hx

theorem GrowsTo.drop_fresh {t t' : SymTable} (h : GrowsTo t t') :
    (∀ s ∈ t'.drop t.length, s ∉ defaultSymbols ∧ s ∉ t) ∧ (t'.drop t.length).Nodup := by
  obtain ⟨e, he, hx⟩ := h
  rw [he, List.drop_left]
  exact extendTable_eq_append_fresh e t (hx.trans he)

theorem GrowsTo.tableOK {t t' : SymTable} (h : GrowsTo t t') (ht : TableOK t) : TableOK t' := by
  obtain ⟨hf, hnd⟩ := h.drop_fresh
  rw [← h.append_drop]
  refine ⟨List.nodup_append.mpr ⟨ht.1, hnd, fun a ha b hb hab => (hf b hb).2 (hab ▸ ha)⟩, fun s hs => ?_⟩
  rcases List.mem_append.mp hs with hs | hs
  · exact ht.2 s hs
  · exact (hf s hs).1

theorem sym_tableOK_nil : TableOK [] := ⟨List.nodup_nil, fun _ hs => nomatch hs⟩

/-- The converse of `GrowsTo.tableOK`: the tail of a good table passes the test `resolveBlocks` and
`resolveSnapshot` make before they extend the table. -/
theorem sym_fresh_of_tableOK (t ext : SymTable) (h : TableOK (t ++ ext)) : freshSymbols t ext = true := by
  obtain ⟨_, hnd, hdisj⟩ := List.nodup_append.mp h.1
  exact freshSymbols_iff.mpr
    ⟨fun s hs => ⟨h.2 s (List.mem_append_right t hs), fun ht => hdisj s ht s hs rfl⟩, hnd⟩

theorem growsTo_symInsert (t : SymTable) (s : Bytes) : GrowsTo t (symInsert t s).1 := by
  cases hn : symIndex t s with
  | some i => rw [symInsert_of_some hn]; exact GrowsTo.refl t
  | none => rw [symInsert_of_none hn]; exact ⟨[s], rfl, by rw [extendTable_cons, symInsert_of_none hn]; rfl⟩

theorem sym_resolveTerm_atom (t : SymTable) (a : Atom) (t0 : SymTable) :
    resolveTerm t (.atom (internAtom t0 a).2) = (resolveAtom t (internAtom t0 a).2).map fun x => Term.const (.atom x) := by
  cases a <;> rfl

theorem sym_mapM_termGround (args : List Val) : (args.map Term.const).mapM termGround = some args := by
  simpa using List.mapM_map_some Term.const termGround id args (fun _ _ => rfl)

/-- `f` only grows the table, and its result resolves to its argument from then on. -/
def Interns {α β : Type} (f : SymTable → α → SymTable × β) (g : SymTable → β → Option α) : Prop :=
  ∀ t x, GrowsTo t (f t x).1 ∧ ∀ ext, g ((f t x).1 ++ ext) (f t x).2 = some x

theorem Interns.later {α β : Type} {f : SymTable → α → SymTable × β} {g : SymTable → β → Option α}
    (h : Interns f g) (t : SymTable) (x : α) {t' : SymTable} (hg : GrowsTo (f t x).1 t') (ext : SymTable) :
    g (t' ++ ext) (f t x).2 = some x := by
  obtain ⟨e, he⟩ := hg.prefix
  rw [he, List.append_assoc]; exact (h t x).2 _

/-- Lists: `F` is any function with the two equations of the list-interning functions of
Model/Symbols (`internAtoms`, `internTerms`, …), which hold by `rfl`. -/
theorem Interns.list {α β : Type} {f : SymTable → α → SymTable × β} {g : SymTable → β → Option α}
    (h : Interns f g) {F : SymTable → List α → SymTable × List β} (hnil : ∀ t, F t [] = (t, []))
    (hcons : ∀ t x xs, F t (x :: xs) = ((F (f t x).1 xs).1, (f t x).2 :: (F (f t x).1 xs).2)) :
    Interns F (fun t l => l.mapM (g t)) := by
  intro t l
  induction l generalizing t with
  | nil => rw [hnil]; exact ⟨GrowsTo.refl t, fun _ => rfl⟩
  | cons x xs ih =>
    obtain ⟨g2, r2⟩ := ih (f t x).1
    rw [hcons]
    refine ⟨(h t x).1.trans g2, fun ext => ?_⟩
    simp only [List.mapM_cons, r2 ext, h.later t x g2 ext]
    rfl

theorem interns_symInsert : Interns symInsert symStr :=
  fun t s => ⟨growsTo_symInsert t s, fun _ => sym_append_prefix_stable _ _ _ _ (symInsert_symStr t s)⟩

theorem interns_atom : Interns internAtom resolveAtom := by
  intro t a
  cases a with
  | str s => exact ⟨(interns_symInsert t s).1, fun ext => by
      simp only [internAtom, resolveAtom, (interns_symInsert t s).2 ext]; rfl⟩
  | int i => exact ⟨GrowsTo.refl t, fun _ => rfl⟩
  | date i => exact ⟨GrowsTo.refl t, fun _ => rfl⟩
  | bytes i => exact ⟨GrowsTo.refl t, fun _ => rfl⟩
  | bool i => exact ⟨GrowsTo.refl t, fun _ => rfl⟩

theorem interns_atoms : Interns internAtoms (fun t l => l.mapM (resolveAtom t)) :=
  interns_atom.list (fun _ => rfl) (fun _ _ _ => rfl)

theorem interns_term : Interns internTerm resolveTerm := by
  intro t x
  match x with
  | .var n => exact ⟨(interns_symInsert t n).1, fun ext => by
      simp only [internTerm, resolveTerm, (interns_symInsert t n).2 ext]; rfl⟩
  | .const (.atom a) => exact ⟨(interns_atom t a).1, fun ext => by
      simp only [internTerm, sym_resolveTerm_atom, (interns_atom t a).2 ext]; rfl⟩
  | .const (.set l) => exact ⟨(interns_atoms t l).1, fun ext => by
      have := (interns_atoms t l).2 ext
      simp only [internTerm, resolveTerm, this]; rfl⟩

theorem interns_terms : Interns internTerms (fun t l => l.mapM (resolveTerm t)) :=
  interns_term.list (fun _ => rfl) (fun _ _ _ => rfl)

theorem interns_pred : Interns internPred resolvePred := by
  intro t p
  obtain ⟨g2, r2⟩ := interns_symInsert (internTerms t p.terms).1 p.name
  refine ⟨(interns_terms t p.terms).1.trans g2, fun ext => ?_⟩
  have r1 := interns_terms.later t p.terms g2 ext
  simp only [internPred, resolvePred, r2 ext, r1]
  rfl

theorem interns_fact : Interns internFact resolveFact := by
  intro t f
  obtain ⟨g1, r1⟩ := interns_pred t { name := f.name, terms := f.args.map Term.const }
  refine ⟨g1, fun ext => ?_⟩
  simp only [internFact, resolveFact, r1 ext, Option.bind_eq_bind, Option.bind_some, sym_mapM_termGround]
  rfl

theorem interns_preds : Interns internPreds (fun t l => l.mapM (resolvePred t)) :=
  interns_pred.list (fun _ => rfl) (fun _ _ _ => rfl)

theorem interns_op : Interns internOp resolveOp := by
  intro t o
  cases o with
  | value x => exact ⟨(interns_term t x).1, fun ext => by
      simp only [internOp, resolveOp, (interns_term t x).2 ext]; rfl⟩
  | unary u => exact ⟨GrowsTo.refl t, fun _ => by
      simp only [internOp, resolveOp, sym_unary_code_roundtrip]; rfl⟩
  | binary b => exact ⟨GrowsTo.refl t, fun _ => by
      simp only [internOp, resolveOp, sym_binary_code_roundtrip]; rfl⟩

theorem interns_expr : Interns internExpr (fun t (e : List IOp) => e.mapM (resolveOp t)) :=
  interns_op.list (fun _ => rfl) (fun _ _ _ => rfl)

theorem interns_exprs :
    Interns internExprs (fun t (l : List (List IOp)) => l.mapM fun e => e.mapM (resolveOp t)) :=
  interns_expr.list (fun _ => rfl) (fun _ _ _ => rfl)

theorem interns_rule : Interns internRule resolveRule := by
  intro t r
  obtain ⟨g1, _⟩ := interns_preds t r.body
  obtain ⟨g2, _⟩ := interns_exprs (internPreds t r.body).1 r.exprs
  obtain ⟨g3, r3⟩ := interns_pred (internExprs (internPreds t r.body).1 r.exprs).1 r.head
  refine ⟨(g1.trans g2).trans g3, fun ext => ?_⟩
  have r1 := interns_preds.later t r.body (g2.trans g3) ext
  have r2 := interns_exprs.later (internPreds t r.body).1 r.exprs g3 ext
  simp only [internRule, resolveRule, r3 ext, r1, r2]
  rfl

theorem interns_rules : Interns internRules (fun t l => l.mapM (resolveRule t)) :=
  interns_rule.list (fun _ => rfl) (fun _ _ _ => rfl)

theorem interns_check : Interns internCheck resolveCheck := by
  intro t c
  refine ⟨(interns_rules t c.queries).1, fun ext => ?_⟩
  have := (interns_rules t c.queries).2 ext
  simp only [internCheck, resolveCheck, this]; rfl

theorem interns_checks : Interns internChecks (fun t l => l.mapM (resolveCheck t)) :=
  interns_check.list (fun _ => rfl) (fun _ _ _ => rfl)

theorem interns_facts : Interns internFacts (fun t l => l.mapM (resolveFact t)) :=
  interns_fact.list (fun _ => rfl) (fun _ _ _ => rfl)

theorem interns_policy : Interns internPolicy resolvePolicy := by
  intro t p
  refine ⟨(interns_rules t p.queries).1, fun ext => ?_⟩
  have := (interns_rules t p.queries).2 ext
  simp only [internPolicy, resolvePolicy, this, sym_policyKind_roundtrip]; rfl

theorem interns_policies : Interns internPolicies (fun t l => l.mapM (resolvePolicy t)) :=
  interns_policy.list (fun _ => rfl) (fun _ _ _ => rfl)

theorem buildBlockMsgs_cons (t : SymTable) (c : BlockContent) (cs : List BlockContent) :
    buildBlockMsgs t (c :: cs) = (buildBlockMsg t c).2 :: buildBlockMsgs (buildBlockMsg t c).1 cs := rfl

theorem blocksDeclared_cons (t : SymTable) (m : BlockMsg) (ms : List BlockMsg) :
    blocksDeclared t (m :: ms) =
      (blockDeclared (extendTable t m.symbols) m && blocksDeclared (extendTable t m.symbols) ms) := rfl

theorem buildBlockMsg_growsTo (t : SymTable) (c : BlockContent) : GrowsTo t (buildBlockMsg t c).1 :=
  ((interns_facts t _).1.trans (interns_rules _ _).1).trans (interns_checks _ _).1

theorem buildBlockMsg_table (t : SymTable) (c : BlockContent) :
    (buildBlockMsg t c).1 = t ++ (buildBlockMsg t c).2.symbols :=
  (buildBlockMsg_growsTo t c).append_drop.symm

theorem buildBlockMsg_fresh (t : SymTable) (c : BlockContent) :
    freshSymbols t (buildBlockMsg t c).2.symbols = true :=
  freshSymbols_iff.mpr (buildBlockMsg_growsTo t c).drop_fresh

theorem buildBlockMsg_resolves (t : SymTable) (c : BlockContent) :
    resolveBlock (buildBlockMsg t c).1 (buildBlockMsg t c).2 = some c := by
  obtain ⟨g2, _⟩ := interns_rules (internFacts t c.block.facts).1 c.block.rules
  obtain ⟨g3, r3⟩ := interns_checks (internRules (internFacts t c.block.facts).1 c.block.rules).1 c.block.checks
  have r1 := interns_facts.later t c.block.facts (g2.trans g3) []
  have r2 := interns_rules.later (internFacts t c.block.facts).1 c.block.rules g3 []
  have r3 := r3 []
  simp only [List.append_nil] at r1 r2 r3
  have hv : versionOk (some 3) = true := (sym_version_gate _).mpr rfl
  simp only [buildBlockMsg, resolveBlock, hv, r1, r2, r3, Option.bind_eq_bind, Option.bind_some,
    Bool.not_true, Bool.false_eq_true, if_false]
  rfl

theorem sym_build_then_resolve (cs : List BlockContent) : ∀ (t : SymTable),
    resolveBlocks t (buildBlockMsgs t cs) = some cs := by
  induction cs with
  | nil => intro t; rfl
  | cons c cs ih =>
    intro t
    simp only [buildBlockMsgs, resolveBlocks, buildBlockMsg_fresh, if_true, ← buildBlockMsg_table,
      buildBlockMsg_resolves, ih]
    rfl

theorem sym_load_rejects_other_versions (m : PoliciesMsg) (h : m.version ≠ some 3) : resolveSnapshot m = none := by
  simp only [resolveSnapshot, h, ne_eq, not_false_eq_true, if_true]
  rfl

end Biscuit
