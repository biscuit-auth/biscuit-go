/-
Proofs/Construct — helper lemmas about the construction step (Model/Construct): the order
`keyLe` / `atomLe` on keys, insertion sort `sortAtoms`.
-/
import BiscuitModel.Model.Construct

namespace Biscuit.Construct
open Biscuit

/-- `keyLe` is the lexicographic order `≤` of core on `List Nat`. -/
theorem keyLe_iff : ∀ a b : List Nat, keyLe a b = true ↔ a ≤ b
  | [], _ => by simp [keyLe]
  | _ :: _, [] => by simp [keyLe]
  | x :: xs, y :: ys => by
    simp only [keyLe, Bool.or_eq_true, Bool.and_eq_true, beq_iff_eq, decide_eq_true_eq,
      List.cons_le_cons_iff, keyLe_iff xs ys]

theorem atomLe_total (a b : Atom) : atomLe a b = true ∨ atomLe b a = true := by
  simp only [atomLe, keyLe_iff]
  exact List.le_total _ _

theorem atomLe_trans {a b c : Atom} (h1 : atomLe a b = true) (h2 : atomLe b c = true) :
    atomLe a c = true :=
  (keyLe_iff _ _).2 (List.le_trans ((keyLe_iff _ _).1 h1) ((keyLe_iff _ _).1 h2))

theorem insertSorted_perm (a : Atom) : ∀ l : List Atom, (insertSorted a l).Perm (a :: l)
  | [] => .refl _
  | b :: bs => by
    simp only [insertSorted]
    split
    · exact .refl _
    · exact ((insertSorted_perm a bs).cons b).trans (.swap a b bs)

theorem sortAtoms_perm : ∀ l : List Atom, (sortAtoms l).Perm l
  | [] => .refl _
  | a :: as => (insertSorted_perm a _).trans ((sortAtoms_perm as).cons a)

theorem mem_sortAtoms (l : List Atom) (a : Atom) : a ∈ sortAtoms l ↔ a ∈ l :=
  (sortAtoms_perm l).mem_iff

abbrev Sorted (l : List Atom) : Prop := l.Pairwise (fun a b => atomLe a b = true)

theorem insertSorted_sorted (a : Atom) : ∀ l : List Atom, Sorted l → Sorted (insertSorted a l)
  | [], _ => by simp [insertSorted, Sorted]
  | b :: bs, h => by
    simp only [insertSorted]
    have hb := List.pairwise_cons.1 h
    split
    next hab =>
      refine List.pairwise_cons.2 ⟨?_, h⟩
      intro c hc
      rcases List.mem_cons.1 hc with rfl | hc
      · exact hab
      · exact atomLe_trans hab (hb.1 c hc)
    next hab =>
      have hba : atomLe b a = true := (atomLe_total a b).resolve_left hab
      refine List.pairwise_cons.2 ⟨?_, insertSorted_sorted a bs hb.2⟩
      intro c hc
      rcases List.mem_cons.1 ((insertSorted_perm a bs).mem_iff.1 hc) with rfl | hc
      · exact hba
      · exact hb.1 c hc

theorem sortAtoms_sorted : ∀ l : List Atom, Sorted (sortAtoms l)
  | [] => List.Pairwise.nil
  | a :: as => insertSorted_sorted a _ (sortAtoms_sorted as)

theorem sortAtoms_of_sorted : ∀ l : List Atom, Sorted l → sortAtoms l = l
  | [], _ => rfl
  | a :: as, h => by
    have ha := List.pairwise_cons.1 h
    simp only [sortAtoms, sortAtoms_of_sorted as ha.2]
    cases as with
    | nil => rfl
    | cons b bs => simp [insertSorted, ha.1 b List.mem_cons_self]

end Biscuit.Construct
