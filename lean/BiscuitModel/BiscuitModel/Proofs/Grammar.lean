/-
Proofs/Grammar — helper lemmas for C14 / C15.

The recursive-descent parser of `Model/Grammar` re-reads the minimal rendering
(`Printer.renderToks`) of every well-formed tree.  `lvl`, `WFx`, … are copies of the
definitions `level`, `WF`, … of `Props/C14` (which imports this file); C14 proves that
they coincide.

Structure of the proof: for every precedence level `k` the statement `S k e` says "the
parser function of level `k` reads `renderToks e ++ rest` as `e`" — in continuation
style for the levels that have a loop (`||`, `&&`, `+ -`, `* /`, method calls): whatever
the loop of that level returns when started with the accumulator `e` on `rest` is what
the parser function returns on `renderToks e ++ rest` (a left-associative chain is read by
the loop, not by recursion).  What is read at level `k + 1` is read at level `k` (`S.down`);
each kind of node is read at its own level from its parts (`S0_or` … `S7_term`); by induction
a well-formed tree is read at every level up to its own (`reads_of_WFx`).  Fuel is handled by
explicit lower bounds (`16 * esize e + 2 * (7 - k)`; `esize e` is at most the number of tokens of
`e`), no monotonicity lemma is needed.
-/
import BiscuitModel.Model.Printer

namespace Biscuit.Grammar
open Biscuit Biscuit.Printer

def lvl : PExpr → Nat
  | .bin .or _ _ => 0
  | .bin .and _ _ => 1
  | .bin .lt _ _ | .bin .le _ _ | .bin .gt _ _ | .bin .ge _ _ | .bin .eq _ _ => 2
  | .bin .add _ _ | .bin .sub _ _ => 3
  | .bin .mul _ _ | .bin .div _ _ => 4
  | .bin _ _ _ => 8
  | .neg _ => 5
  | .method _ _ _ | .length _ => 6
  | .term _ | .paren _ => 7

def isMethOp : BinOp → Bool
  | .contains | .pfx | .sfx | .regex | .intersection | .union => true
  | _ => false

def AtomOK : PTerm → Prop
  | .set _ => False
  | _ => True

def TermOK : PTerm → Prop
  | .set elts => elts ≠ [] ∧ ∀ t ∈ elts, AtomOK t
  | _ => True

def WFx : PExpr → Prop
  | .term t => TermOK t
  | .paren e => WFx e
  | .neg e => WFx e ∧ lvl e ≥ 6
  | .bin op l r =>
    WFx l ∧ WFx r ∧ lvl (.bin op l r) ≤ 4 ∧
    (if lvl (.bin op l r) = 2 then lvl l ≥ 3 ∧ lvl r ≥ 3
     else lvl l ≥ lvl (.bin op l r) ∧ lvl r > lvl (.bin op l r))
  | .method op recv arg => isMethOp op = true ∧ WFx recv ∧ WFx arg ∧ lvl recv ≥ 6
  | .length recv => WFx recv ∧ lvl recv ≥ 6

def opLvl : BinOp → Nat
  | .or => 0 | .and => 1 | .lt | .le | .gt | .ge | .eq => 2 | .add | .sub => 3 | .mul | .div => 4
  | _ => 8

theorem lvl_bin (op : BinOp) (a b : PExpr) : lvl (.bin op a b) = opLvl op := by
  cases op <;> rfl

def orStop (rest : List Tok) : Prop := ∀ r, rest = .orOp :: r → False
def andStop (rest : List Tok) : Prop := ∀ r, rest = .andOp :: r → False
def cmpStop (rest : List Tok) : Prop := ∀ t r, rest = t :: r → cmpOfTok t = none
def addStop (rest : List Tok) : Prop := ∀ t r, rest = t :: r → addOfTok t = none
def mulStop (rest : List Tok) : Prop := ∀ t r, rest = t :: r → mulOfTok t = none
def dotStop (rest : List Tok) : Prop := ∀ r, rest = .dot :: r → False

/-- The head of `rest` is not an operator token that a loop of level `≥ k` consumes. -/
def Follow (k : Nat) (rest : List Tok) : Prop :=
  (k ≤ 0 → orStop rest) ∧ (k ≤ 1 → andStop rest) ∧ (k ≤ 2 → cmpStop rest) ∧
  (k ≤ 3 → addStop rest) ∧ (k ≤ 4 → mulStop rest) ∧ (k ≤ 6 → dotStop rest)

theorem Follow.mono {k k' : Nat} {rest : List Tok} (h : Follow k rest) (hk : k ≤ k') :
    Follow k' rest := by
  unfold Follow at *
  exact ⟨fun h' => h.1 (by omega), fun h' => h.2.1 (by omega), fun h' => h.2.2.1 (by omega),
    fun h' => h.2.2.2.1 (by omega), fun h' => h.2.2.2.2.1 (by omega), fun h' => h.2.2.2.2.2 (by omega)⟩

theorem Follow.or {rest : List Tok} (h : Follow 0 rest) : orStop rest := h.1 (by omega)
theorem Follow.and {k : Nat} {rest : List Tok} (h : Follow k rest) (hk : k ≤ 1 := by omega) : andStop rest := h.2.1 hk
theorem Follow.cmp {k : Nat} {rest : List Tok} (h : Follow k rest) (hk : k ≤ 2 := by omega) : cmpStop rest := h.2.2.1 hk
theorem Follow.add {k : Nat} {rest : List Tok} (h : Follow k rest) (hk : k ≤ 3 := by omega) : addStop rest := h.2.2.2.1 hk
theorem Follow.mul {k : Nat} {rest : List Tok} (h : Follow k rest) (hk : k ≤ 4 := by omega) : mulStop rest := h.2.2.2.2.1 hk
theorem Follow.dot {k : Nat} {rest : List Tok} (h : Follow k rest) (hk : k ≤ 6 := by omega) : dotStop rest := h.2.2.2.2.2 hk

/-- `Follow k` of a non-empty rest as a condition on its head, decidable for a given level and token. -/
theorem Follow.cons {k : Nat} {t : Tok}
    (h : (k ≤ 0 → t ≠ .orOp) ∧ (k ≤ 1 → t ≠ .andOp) ∧ (k ≤ 2 → cmpOfTok t = none) ∧
      (k ≤ 3 → addOfTok t = none) ∧ (k ≤ 4 → mulOfTok t = none) ∧ (k ≤ 6 → t ≠ .dot))
    (r : List Tok) : Follow k (t :: r) :=
  ⟨fun hk _ e => h.1 hk (List.cons.inj e).1, fun hk _ e => h.2.1 hk (List.cons.inj e).1,
   fun hk _ _ e => (List.cons.inj e).1 ▸ h.2.2.1 hk, fun hk _ _ e => (List.cons.inj e).1 ▸ h.2.2.2.1 hk,
   fun hk _ _ e => (List.cons.inj e).1 ▸ h.2.2.2.2.1 hk, fun hk _ e => h.2.2.2.2.2 hk (List.cons.inj e).1⟩

theorem Follow.nil (k : Nat) : Follow k [] :=
  ⟨fun _ _ e => (nomatch e), fun _ _ e => (nomatch e), fun _ _ _ e => (nomatch e),
   fun _ _ _ e => (nomatch e), fun _ _ _ e => (nomatch e), fun _ _ e => (nomatch e)⟩

/-! An operator token, which the loop of its own level consumes, stops every loop above that level. -/

theorem cmpOfTok_cases {t : Tok} (h : (cmpOfTok t).isSome) :
    t = .op "<=" ∨ t = .op ">=" ∨ t = .op "<" ∨ t = .op ">" ∨ t = .op "==" := by
  unfold cmpOfTok at h
  split at h
  · exact .inl rfl
  · exact .inr (.inl rfl)
  · exact .inr (.inr (.inl rfl))
  · exact .inr (.inr (.inr (.inl rfl)))
  · exact .inr (.inr (.inr (.inr rfl)))
  · cases h

theorem follow_of_cmp {t : Tok} {op : BinOp} (h : cmpOfTok t = some op) (r : List Tok) :
    Follow 3 (t :: r) := by
  rcases cmpOfTok_cases (Option.isSome_of_eq_some h) with rfl | rfl | rfl | rfl | rfl <;>
    exact Follow.cons (by decide) r

theorem follow_of_add {t : Tok} {op : BinOp} (h : addOfTok t = some op) (r : List Tok) :
    Follow 4 (t :: r) := by
  unfold addOfTok at h
  split at h
  iterate 2 exact Follow.cons (by decide) r
  cases h

theorem follow_of_mul {t : Tok} {op : BinOp} (h : mulOfTok t = some op) (r : List Tok) :
    Follow 5 (t :: r) := by
  unfold mulOfTok at h
  split at h
  iterate 2 exact Follow.cons (by decide) r
  cases h

/-! The loops stop on their follow sets, for every fuel `≥ 1`: the form in which the
continuation-style statements below take them. -/

theorem orLoop_stop {rest : List Tok} (h : orStop rest) (l : PExpr) :
    ∀ f, f ≥ 1 → orLoop f l rest = some (l, rest)
  | 0, hf => absurd hf (by decide)
  | f + 1, _ => orLoop.eq_3 l rest f h

theorem andLoop_stop {rest : List Tok} (h : andStop rest) (l : PExpr) :
    ∀ f, f ≥ 1 → andLoop f l rest = some (l, rest)
  | 0, hf => absurd hf (by decide)
  | f + 1, _ => andLoop.eq_3 l rest f h

theorem addLoop_stop {rest : List Tok} (h : addStop rest) (l : PExpr) :
    ∀ f, f ≥ 1 → addLoop f l rest = some (l, rest)
  | 0, hf => absurd hf (by decide)
  | f + 1, _ => by
    cases rest with
    | nil => simp [addLoop]
    | cons t r => rw [addLoop.eq_2, h t r rfl]

theorem mulLoop_stop {rest : List Tok} (h : mulStop rest) (l : PExpr) :
    ∀ f, f ≥ 1 → mulLoop f l rest = some (l, rest)
  | 0, hf => absurd hf (by decide)
  | f + 1, _ => by
    cases rest with
    | nil => simp [mulLoop]
    | cons t r => rw [mulLoop.eq_2, h t r rfl]

theorem methodLoop_stop {rest : List Tok} (h : dotStop rest) (l : PExpr) :
    ∀ f, f ≥ 1 → methodLoop f l rest = some (l, rest)
  | 0, hf => absurd hf (by decide)
  | f + 1, _ => methodLoop.eq_4 l rest f (fun _ _ hr => h _ hr)

/-- Fuel measure of a tree: every atom (also a signed integer literal, two tokens), operator,
pair of parentheses and method call counts one, a set its number of elements plus two — what
the parser needs per unit is one descent through the levels, 16 with room to spare.
`esize_le_length`: never more than the number of rendered tokens. -/
def esize : PExpr → Nat
  | .term (.set elts) => elts.length + 2
  | .term _ => 1
  | .paren e => esize e + 1
  | .neg e => esize e + 1
  | .bin _ l r => esize l + 1 + esize r
  | .method _ recv arg => esize recv + esize arg + 1
  | .length recv => esize recv + 1

/-- Level `k` reads `renderToks e ++ rest` as `e`; with a loop: and goes on as its loop does from
`e` on `rest` (for every fuel from `m` on).  A level costs two units of fuel.  A level with a loop
asks `Follow (k + 1)` only: its own operator in front of `rest` is the continuation's business; the
method loop (level 6) hands everything to the continuation, and an atom (level 7) is read whatever follows. -/
def S : Nat → PExpr → Prop
  | 0, e => ∀ rest res m, Follow 1 rest → (∀ f, f ≥ m → orLoop f e rest = some res) →
      ∀ f, f ≥ m + 16 * esize e + 14 → parseOr f (renderToks e ++ rest) = some res
  | 1, e => ∀ rest res m, Follow 2 rest → (∀ f, f ≥ m → andLoop f e rest = some res) →
      ∀ f, f ≥ m + 16 * esize e + 12 → parseAnd f (renderToks e ++ rest) = some res
  | 2, e => ∀ rest, Follow 2 rest → ∀ f, f ≥ 16 * esize e + 10 →
      parseCmp f (renderToks e ++ rest) = some (e, rest)
  | 3, e => ∀ rest res m, Follow 4 rest → (∀ f, f ≥ m → addLoop f e rest = some res) →
      ∀ f, f ≥ m + 16 * esize e + 8 → parseAdd f (renderToks e ++ rest) = some res
  | 4, e => ∀ rest res m, Follow 5 rest → (∀ f, f ≥ m → mulLoop f e rest = some res) →
      ∀ f, f ≥ m + 16 * esize e + 6 → parseMul f (renderToks e ++ rest) = some res
  | 5, e => ∀ rest, Follow 6 rest → ∀ f, f ≥ 16 * esize e + 4 →
      parseNot f (renderToks e ++ rest) = some (e, rest)
  | 6, e => ∀ rest res m, (∀ f, f ≥ m → methodLoop f e rest = some res) →
      ∀ f, f ≥ m + 16 * esize e + 2 → parsePostfix f (renderToks e ++ rest) = some res
  | _, e => ∀ rest f, f ≥ 16 * esize e → parseAtom f (renderToks e ++ rest) = some (e, rest)

theorem parsePostfix_bang (f : Nat) (r : List Tok) : parsePostfix f (.punct '!' :: r) = none :=
  match f with
  | 0 | 1 | _ + 2 => rfl

/-- One level down: the function of level `k` calls that of level `k + 1`, which reads `e` and
stops; then the loop of level `k` takes over (or there is none: levels 2 and 5). -/
theorem S.down {k : Nat} {e : PExpr} (h : S (k + 1) e) : S k e := by
  match k with
  | 0 =>
    intro rest res m hF hloop f hf
    obtain ⟨g, rfl⟩ : ∃ g, f = g + 1 := ⟨f - 1, by omega⟩
    rw [parseOr.eq_2, h rest (e, rest) 1 (hF.mono (by omega)) (andLoop_stop hF.and e) g (by omega)]
    exact hloop g (by omega)
  | 1 =>
    intro rest res m hF hloop f hf
    obtain ⟨g, rfl⟩ : ∃ g, f = g + 1 := ⟨f - 1, by omega⟩
    rw [parseAnd.eq_2, h rest hF g (by omega)]
    exact hloop g (by omega)
  | 2 =>
    intro rest hF f hf
    obtain ⟨g, rfl⟩ : ∃ g, f = g + 1 := ⟨f - 1, by omega⟩
    rw [parseCmp.eq_2, h rest (e, rest) 1 (hF.mono (by omega)) (addLoop_stop hF.add e) g (by omega)]
    have hc : cmpStop rest := hF.cmp
    cases rest with
    | nil => rfl
    | cons t r => simp only [hc t r rfl]
  | 3 =>
    intro rest res m hF hloop f hf
    obtain ⟨g, rfl⟩ : ∃ g, f = g + 1 := ⟨f - 1, by omega⟩
    rw [parseAdd.eq_2, h rest (e, rest) 1 (hF.mono (by omega)) (mulLoop_stop hF.mul e) g (by omega)]
    exact hloop g (by omega)
  | 4 =>
    intro rest res m hF hloop f hf
    obtain ⟨g, rfl⟩ : ∃ g, f = g + 1 := ⟨f - 1, by omega⟩
    rw [parseMul.eq_2, h rest (hF.mono (by omega)) g (by omega)]
    exact hloop g (by omega)
  | 5 =>
    intro rest hF f hf
    obtain ⟨g, rfl⟩ : ∃ g, f = g + 1 := ⟨f - 1, by omega⟩
    have hp := h rest (e, rest) 1 (methodLoop_stop hF.dot e) g (by omega)
    rw [parseNot.eq_3, hp]
    -- what `parsePostfix` reads does not start with `!`
    intro r hx
    rw [hx, parsePostfix_bang] at hp
    cases hp
  | 6 =>
    intro rest res m hloop f hf
    obtain ⟨g, rfl⟩ : ∃ g, f = g + 1 := ⟨f - 1, by omega⟩
    rw [parsePostfix.eq_2, h rest g (by omega)]
    exact hloop g (by omega)
  | _ + 7 => exact h

/-- Level 0 without continuation: with a rest on which every loop stops, `parseOr` reads `e`
and nothing more. -/
theorem S.parseOr {e : PExpr} (h : S 0 e) {rest : List Tok} (hr : Follow 0 rest) {f : Nat}
    (hf : f ≥ 16 * esize e + 15) : parseOr f (renderToks e ++ rest) = some (e, rest) :=
  h rest (e, rest) 1 (hr.mono (by omega)) (orLoop_stop hr.or e) f (by omega)

theorem renderToks_bin {op : BinOp} {t : Tok} (h : binTok op = some t) (a b : PExpr) (rest : List Tok) :
    renderToks (.bin op a b) ++ rest = renderToks a ++ t :: (renderToks b ++ rest) := by
  simp [renderToks, h]

theorem S0_or {a b : PExpr} (ha : S 0 a) (hb : S 1 b) : S 0 (.bin .or a b) := by
  intro rest res m hF hloop f hf
  have hn : esize (.bin .or a b) = esize a + 1 + esize b := rfl
  rw [renderToks_bin rfl]
  refine ha _ res (m + 16 * esize b + 14) (Follow.cons (by decide) _) ?_ f (by omega)
  intro f' hf'
  obtain ⟨g, rfl⟩ : ∃ g, f' = g + 1 := ⟨f' - 1, by omega⟩
  rw [orLoop.eq_2, hb rest (b, rest) 1 (hF.mono (by omega)) (andLoop_stop hF.and b) g (by omega)]
  exact hloop g (by omega)

theorem S1_and {a b : PExpr} (ha : S 1 a) (hb : S 2 b) : S 1 (.bin .and a b) := by
  intro rest res m hF hloop f hf
  have hn : esize (.bin .and a b) = esize a + 1 + esize b := rfl
  rw [renderToks_bin rfl]
  refine ha _ res (m + 16 * esize b + 14) (Follow.cons (by decide) _) ?_ f (by omega)
  intro f' hf'
  obtain ⟨g, rfl⟩ : ∃ g, f' = g + 1 := ⟨f' - 1, by omega⟩
  rw [andLoop.eq_2, hb rest hF g (by omega)]
  exact hloop g (by omega)

/-- A comparison is read whatever follows it at level 2: `parseCmp` does not loop. -/
theorem S2_cmp' {a b : PExpr} {op : BinOp} {t : Tok} (hbt : binTok op = some t)
    (hct : cmpOfTok t = some op) (ha : S 3 a) (hb : S 3 b)
    (rest : List Tok) (hF : Follow 3 rest) (f : Nat) (hf : f ≥ 16 * esize (.bin op a b) + 10) :
    parseCmp f (renderToks (.bin op a b) ++ rest) = some (.bin op a b, rest) := by
  have hn : esize (.bin op a b) = esize a + 1 + esize b := rfl
  have hFt := follow_of_cmp hct (renderToks b ++ rest)
  obtain ⟨g, rfl⟩ : ∃ g, f = g + 1 := ⟨f - 1, by omega⟩
  rw [renderToks_bin hbt, parseCmp.eq_2,
    ha _ (a, _) 1 (hFt.mono (by omega)) (addLoop_stop hFt.add a) g (by omega)]
  simp only [hct]
  rw [hb rest (b, rest) 1 (hF.mono (by omega)) (addLoop_stop hF.add b) g (by omega)]

theorem S2_cmp {a b : PExpr} {op : BinOp} {t : Tok} (hbt : binTok op = some t)
    (hct : cmpOfTok t = some op) (ha : S 3 a) (hb : S 3 b) : S 2 (.bin op a b) :=
  fun rest hF f hf => S2_cmp' hbt hct ha hb rest (hF.mono (by omega)) f hf

theorem S3_add {a b : PExpr} {op : BinOp} {t : Tok} (hbt : binTok op = some t)
    (hct : addOfTok t = some op) (ha : S 3 a) (hb : S 4 b) : S 3 (.bin op a b) := by
  intro rest res m hF hloop f hf
  have hn : esize (.bin op a b) = esize a + 1 + esize b := rfl
  rw [renderToks_bin hbt]
  refine ha _ res (m + 16 * esize b + 14) (follow_of_add hct _) ?_ f (by omega)
  intro f' hf'
  obtain ⟨g, rfl⟩ : ∃ g, f' = g + 1 := ⟨f' - 1, by omega⟩
  rw [addLoop.eq_2]
  simp only [hct]
  rw [hb rest (b, rest) 1 (hF.mono (by omega)) (mulLoop_stop hF.mul b) g (by omega)]
  exact hloop g (by omega)

theorem S4_mul {a b : PExpr} {op : BinOp} {t : Tok} (hbt : binTok op = some t)
    (hct : mulOfTok t = some op) (ha : S 4 a) (hb : S 5 b) : S 4 (.bin op a b) := by
  intro rest res m hF hloop f hf
  have hn : esize (.bin op a b) = esize a + 1 + esize b := rfl
  rw [renderToks_bin hbt]
  refine ha _ res (m + 16 * esize b + 14) (follow_of_mul hct _) ?_ f (by omega)
  intro f' hf'
  obtain ⟨g, rfl⟩ : ∃ g, f' = g + 1 := ⟨f' - 1, by omega⟩
  rw [mulLoop.eq_2]
  simp only [hct]
  rw [hb rest (hF.mono (by omega)) g (by omega)]
  exact hloop g (by omega)

theorem S5_neg {e : PExpr} (h : S 6 e) : S 5 (.neg e) := by
  intro rest hF f hf
  have hn : esize (.neg e) = esize e + 1 := rfl
  have ht : renderToks (.neg e) ++ rest = .punct '!' :: (renderToks e ++ rest) := by
    simp [renderToks]
  rw [ht]
  obtain ⟨g, rfl⟩ : ∃ g, f = g + 1 := ⟨f - 1, by omega⟩
  rw [parseNot.eq_2, h rest (e, rest) 1 (methodLoop_stop hF.dot e) g (by omega)]

theorem methodOfTok_methodTok {op : BinOp} (h : isMethOp op = true) :
    methodOfTok (methodTok op) = some (some op) := by
  cases op <;> first | rfl | (simp [isMethOp] at h)

theorem S6_method {recv arg : PExpr} {op : BinOp} (hop : isMethOp op = true)
    (hr : S 6 recv) (ha : S 0 arg) : S 6 (.method op recv arg) := by
  intro rest res m hloop f hf
  have hn : esize (.method op recv arg) = esize recv + esize arg + 1 := rfl
  have ht : renderToks (.method op recv arg) ++ rest =
      renderToks recv ++ (.dot :: methodTok op :: .punct '(' :: (renderToks arg ++ (.punct ')' :: rest))) := by
    simp [renderToks]
  rw [ht]
  refine hr _ res (m + 16 * esize arg + 16) ?_ f (by omega)
  intro f' hf'
  obtain ⟨g, rfl⟩ : ∃ g, f' = g + 1 := ⟨f' - 1, by omega⟩
  rw [methodLoop.eq_def]
  simp only [methodOfTok_methodTok hop]
  rw [ha.parseOr (Follow.cons (by decide) rest) (by omega)]
  exact hloop g (by omega)

theorem S6_length {recv : PExpr} (hr : S 6 recv) : S 6 (.length recv) := by
  intro rest res m hloop f hf
  have hn : esize (.length recv) = esize recv + 1 := rfl
  have ht : renderToks (.length recv) ++ rest =
      renderToks recv ++ (.dot :: .func "length" :: .punct '(' :: .punct ')' :: rest) := by
    simp [renderToks]
  rw [ht]
  refine hr _ res (m + 1) ?_ f (by omega)
  intro f' hf'
  obtain ⟨g, rfl⟩ : ∃ g, f' = g + 1 := ⟨f' - 1, by omega⟩
  rw [methodLoop.eq_def]
  simp only [methodOfTok]
  exact hloop g (by omega)

theorem S7_paren {e : PExpr} (h : S 0 e) : S 7 (.paren e) := by
  intro rest f hf
  have hn : esize (.paren e) = esize e + 1 := rfl
  have ht : renderToks (.paren e) ++ rest = .punct '(' :: (renderToks e ++ (.punct ')' :: rest)) := by
    simp [renderToks]
  rw [ht]
  obtain ⟨g, rfl⟩ : ∃ g, f = g + 1 := ⟨f - 1, by omega⟩
  rw [parseAtom.eq_2, h.parseOr (Follow.cons (by decide) rest) (by omega)]
  rfl

/-- The tokens of one non-set term (the inner `match` of `renderTermToks`). -/
def atomToks : PTerm → List Tok
  | .param n => [Tok.param n] | .var n => [.var n] | .int ds => [.int ds]
  | .negInt ds => [.op "-", .int ds] | .str s => [.str s]
  | .date s => [.date s] | .bytes ds => [.hex ds] | .bool b => [.bool b] | .set _ => []

theorem renderTermToks_set (elts : List PTerm) :
    renderTermToks (.set elts) =
      [.punct '['] ++ renderTermToks.joinToks (elts.map atomToks) ++ [.punct ']'] := by
  rfl

theorem renderTermToks_atom {t : PTerm} (h : AtomOK t) : renderTermToks t = atomToks t := by
  cases t <;> first | rfl | exact absurd h (by simp [AtomOK])

theorem length_renderTermToks_atom {t : PTerm} (h : AtomOK t) :
    1 ≤ (renderTermToks t).length ∧ (renderTermToks t).length ≤ 2 := by
  cases t with
  | set _ => exact absurd h id
  | negInt _ => exact ⟨Nat.le_succ _, Nat.le_refl _⟩   -- the sign and the digits
  | _ => exact ⟨Nat.le_refl _, Nat.le_succ _⟩

theorem parseAtomTerm_atom {t : PTerm} (h : AtomOK t) (rest : List Tok) :
    parseAtomTerm (atomToks t ++ rest) = some (t, rest) := by
  cases t <;> first | rfl | exact absurd h (by simp [AtomOK])

def commaStop (rest : List Tok) : Prop := ∀ r, rest = .punct ',' :: r → False

theorem parseAtomList_join (elts : List PTerm) (hne : elts ≠ []) (hok : ∀ t ∈ elts, AtomOK t)
    (rest : List Tok) (hr : commaStop rest) (f : Nat) (hf : f ≥ elts.length) :
    parseAtomList f (renderTermToks.joinToks (elts.map atomToks) ++ rest) = some (elts, rest) := by
  induction elts generalizing f with
  | nil => exact absurd rfl hne
  | cons t ts ih =>
    obtain ⟨g, rfl⟩ : ∃ g, f = g + 1 := ⟨f - 1, by simp at hf; omega⟩
    have ht := hok t (by simp)
    cases ts with
    | nil =>
      simp only [List.map, renderTermToks.joinToks]
      rw [parseAtomList.eq_2, parseAtomTerm_atom ht]
      split
      · next heq => cases heq
      · next heq => cases heq; exact absurd rfl (hr _)
      · next heq => cases heq; rfl
    | cons t' ts' =>
      have := ih (by simp) (fun x hx => hok x (by simp [hx])) g (by simp at hf ⊢; omega)
      simp only [List.map, renderTermToks.joinToks, List.append_assoc,
        List.cons_append] at this ⊢
      rw [parseAtomList.eq_2, parseAtomTerm_atom ht]
      simp only [List.nil_append, this]

theorem length_le_joinToks (elts : List PTerm) (hok : ∀ t ∈ elts, AtomOK t) :
    elts.length ≤ (renderTermToks.joinToks (elts.map atomToks)).length := by
  induction elts with
  | nil => simp
  | cons t ts ih =>
    have h1 : 1 ≤ (atomToks t).length :=
      renderTermToks_atom (hok t (by simp)) ▸ (length_renderTermToks_atom (hok t (by simp))).1
    cases ts with
    | nil => simpa [renderTermToks.joinToks] using h1
    | cons t' ts' =>
      have := ih (fun x hx => hok x (by simp [hx]))
      simp only [List.map, renderTermToks.joinToks, List.length_append, List.length_cons,
        List.length_nil] at this ⊢
      omega

/-- A term never renders to nothing, and its first token is a literal, a variable, a
parameter, `[` or the sign `-` of an integer literal. -/
def termStart : Tok → Bool
  | .param _ | .var _ | .int _ | .str _ | .date _ | .hex _ | .bool _ | .punct '[' | .op "-" => true
  | _ => false

theorem renderTermToks_head (t : PTerm) :
    ∃ x xs, renderTermToks t = x :: xs ∧ termStart x = true := by
  cases t with
  | set elts => exact ⟨.punct '[', _, by rw [renderTermToks_set]; rfl, rfl⟩
  | negInt ds => exact ⟨.op "-", [.int ds], rfl, by decide⟩
  | _ => exact ⟨_, [], rfl, rfl⟩

/-- The fuel only has to cover the elements of a set. -/
theorem parseTerm_render {t : PTerm} (h : TermOK t) (rest : List Tok) (f : Nat)
    (hf : f + 2 ≥ esize (.term t)) :
    parseTerm f (renderTermToks t ++ rest) = some (t, rest) := by
  by_cases hs : AtomOK t
  · have hp := parseAtomTerm_atom hs rest
    rw [renderTermToks_atom hs, parseTerm.eq_2, hp]
    -- what `parseAtomTerm` reads does not start with `[`
    intro r hx
    rw [hx] at hp
    cases hp
  · cases t with
    | set elts =>
      obtain ⟨hne, hok⟩ := h
      have hn : esize (.term (.set elts)) = elts.length + 2 := rfl
      have hr : renderTermToks (.set elts) ++ rest =
          .punct '[' :: (renderTermToks.joinToks (elts.map atomToks) ++ (.punct ']' :: rest)) := by
        rw [renderTermToks_set]; simp
      rw [hr, parseTerm.eq_1,
        parseAtomList_join elts hne hok _ (by intro r hx; simp at hx) f (by omega)]
      rfl
    | _ => exact absurd trivial hs

theorem S7_term {t : PTerm} (h : TermOK t) : S 7 (.term t) := by
  intro rest f hf
  have h1 : 1 ≤ esize (.term t) := by
    cases t <;> first | exact Nat.le_refl 1 | exact Nat.le_add_left 1 _
  obtain ⟨g, rfl⟩ : ∃ g, f = g + 1 := ⟨f - 1, by omega⟩
  have hp := parseTerm_render h rest g (by omega)
  show parseAtom (g + 1) (renderTermToks t ++ rest) = _
  rw [parseAtom.eq_3, hp]
  -- what `parseTerm` reads does not start with `(`
  intro r hx
  rw [hx] at hp
  cases hp

def Reads (e : PExpr) : Prop := ∀ k, k ≤ lvl e → S k e

theorem Reads.of {e : PExpr} {k : Nat} (hk : k = lvl e) (h : S k e) : Reads e := by
  subst hk
  intro j hj
  obtain ⟨d, hd⟩ : ∃ d, lvl e = j + d := ⟨lvl e - j, by omega⟩
  rw [hd] at h
  clear hd hj
  induction d with
  | zero => exact h
  | succ d ih => exact ih (S.down h)

theorem reads_of_WFx (e : PExpr) (h : WFx e) : Reads e := by
  induction e with
  | term t => exact .of rfl (S7_term h)
  | paren e ih => exact .of rfl (S7_paren (ih h 0 (by omega)))
  | neg e ih => exact .of rfl (S5_neg (ih h.1 6 h.2))
  | method op recv arg ihr iha =>
    exact .of rfl (S6_method h.1 (ihr h.2.1 6 h.2.2.2) (iha h.2.2.1 0 (by omega)))
  | length recv ihr => exact .of rfl (S6_length (ihr h.1 6 h.2))
  | bin op a b iha ihb =>
    have ⟨wa, wb, h4, hc⟩ := h
    have ra := iha wa
    have rb := ihb wb
    rw [lvl_bin] at h4 hc
    -- the infix operators in the order of `BinOp`: five comparisons, `+ -`, `* /`, `&&`, `||`
    cases op <;> simp [opLvl] at h4 hc
    iterate 5 exact .of rfl (S2_cmp rfl rfl (ra 3 (by omega)) (rb 3 (by omega)))
    iterate 2 exact .of rfl (S3_add rfl rfl (ra 3 (by omega)) (rb 4 (by omega)))
    iterate 2 exact .of rfl (S4_mul rfl rfl (ra 4 (by omega)) (rb 5 (by omega)))
    · exact .of rfl (S1_and (ra 1 (by omega)) (rb 2 (by omega)))
    · exact .of rfl (S0_or (ra 0 (by omega)) (rb 1 (by omega)))

/-- Level 0 with an ordinary follow condition, fuel by the measure `esize` (the form `Props/C14`
uses); `parseOr_render`: fuel by the number of rendered tokens. -/
theorem parseOr_render_size (e : PExpr) (h : WFx e) (rest : List Tok) (hr : Follow 0 rest)
    (fuel : Nat) (hf : fuel ≥ 16 * esize e + 15) :
    parseOr fuel (renderToks e ++ rest) = some (e, rest) :=
  (reads_of_WFx e h 0 (Nat.zero_le _)).parseOr hr hf

theorem esize_le_length (e : PExpr) (h : WFx e) : esize e ≤ (renderToks e).length := by
  induction e with
  | term t =>
    cases t with
    | set elts =>
      have := length_le_joinToks elts h.2
      show elts.length + 2 ≤ (renderTermToks (.set elts)).length
      rw [renderTermToks_set]; simp; omega
    | negInt ds => exact Nat.le_succ _
    | _ => exact Nat.le_refl _
  | paren e ih => have := ih h; simp only [esize, renderToks, List.length_append, List.length_cons, List.length_nil]; omega
  | neg e ih => have := ih h.1; simp only [esize, renderToks, List.length_cons]; omega
  | bin op a b iha ihb =>
    have h1 := iha h.1
    have h2 := ihb h.2.1
    have h4 : lvl (.bin op a b) ≤ 4 := h.2.2.1
    have hb : ∃ t, binTok op = some t := by
      rw [lvl_bin] at h4
      cases op <;> first | exact ⟨_, rfl⟩ | (simp [opLvl] at h4)
    obtain ⟨t, ht⟩ := hb
    simp only [esize, renderToks, ht, List.length_append, List.length_cons, List.length_nil]; omega
  | method op recv arg ihr iha =>
    have h1 := ihr h.2.1
    have h2 := iha h.2.2.1
    simp only [esize, renderToks, List.length_append, List.length_cons, List.length_nil]; omega
  | length recv ihr =>
    have h1 := ihr h.1
    simp only [esize, renderToks, List.length_append, List.length_cons, List.length_nil]; omega

theorem parseOr_render (e : PExpr) (h : WFx e) (rest : List Tok) (hr : Follow 0 rest)
    (fuel : Nat) (hf : fuel ≥ 16 * (renderToks e).length + 15) :
    parseOr fuel (renderToks e ++ rest) = some (e, rest) :=
  parseOr_render_size e h rest hr fuel (by have := esize_le_length e h; omega)

theorem termOK_of_atomOK {t : PTerm} (h : AtomOK t) : TermOK t := by
  cases t <;> first | trivial | exact absurd h id

theorem esize_term_atom {t : PTerm} (h : AtomOK t) : esize (.term t) = 1 := by
  cases t <;> first | rfl | exact absurd h id

theorem reads_atom {t : PTerm} (h : AtomOK t) : Reads (.term t) :=
  reads_of_WFx (.term t) (termOK_of_atomOK h)

theorem binTok_of_cmpOfTok {t : Tok} {op : BinOp} (h : cmpOfTok t = some op) : binTok op = some t := by
  rcases cmpOfTok_cases (Option.isSome_of_eq_some h) with rfl | rfl | rfl | rfl | rfl <;> cases h <;> rfl

/-- `a op1 b op2 …` after `check if`: the expression parser stops before `op2`, and nothing
above it accepts a comparison operator. -/
theorem chained_cmp_rejected (a b : PTerm) (ha : AtomOK a) (hb : AtomOK b)
    (op1 op2 : Tok) (h1 : (cmpOfTok op1).isSome) (h2 : (cmpOfTok op2).isSome) (pol : Bool)
    (tl : List Tok) (f : Nat) (hf : f ≥ 64) :
    parseItems (f + 7) pol (.keyword "check if" ::
      (renderTermToks a ++ op1 :: (renderTermToks b ++ op2 :: tl))) = none := by
  obtain ⟨o1, ho1⟩ := Option.isSome_iff_exists.mp h1
  obtain ⟨o2, ho2⟩ := Option.isSome_iff_exists.mp h2
  have hb1 := binTok_of_cmpOfTok ho1
  -- `parseCmp` runs five calls below `parseItems` (`parseItems`, `parseQueries`, `parseElems`, `parseOr`,
  -- `parseAnd` each take one unit), hence with `f + 2`; the comparison, of size 3, needs `16 * 3 + 10`
  have hcmp : parseCmp (f + 2) (renderTermToks a ++ op1 :: (renderTermToks b ++ op2 :: tl)) =
      some (.bin o1 (.term a) (.term b), op2 :: tl) := by
    have := S2_cmp' hb1 ho1 (reads_atom ha 3 (by simp [lvl])) (reads_atom hb 3 (by simp [lvl]))
      (op2 :: tl) (follow_of_cmp ho2 tl) (f + 2)
      (by simp only [esize, esize_term_atom ha, esize_term_atom hb]; omega)
    rwa [renderToks_bin hb1] at this
  rw [parseItems.eq_3 _ _ _ (by simp), parseItem.eq_1, parseQueries.eq_2, parseElems.eq_2,
    parseElem.eq_2, parseOr.eq_2, parseAnd.eq_2, hcmp]
  · -- the loops and lists above the comparison, on each of the five tokens `op2` can be
    rcases cmpOfTok_cases h2 with rfl | rfl | rfl | rfl | rfl <;> rfl
  · intro n r hx
    cases a <;> first | exact absurd ha id | simp [renderTermToks] at hx

end Biscuit.Grammar
