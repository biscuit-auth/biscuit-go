/-
Proofs/PrintText — the character-level printer `Printer.print*` against the token-level
reference rendering `Render.render*`, the lexer and the parser.

* Layout algebra: `Seg cs ts` says that the characters `cs` are the well-formed tokens `ts`
  written with an admissible layout (`Grammar.LayoutOK`, `Model/Layout`) and no gap after the last token;
  segments compose (`Seg.append`) when the junction is blank-separated or `needSep` allows
  an empty gap.
* The printed style on syntax trees (`lay*`: `name(t1, t2)`, `head <- b1, b2, e1`,
  `check if q1 or q2`, ` op ` with single spaces, `recv.method(arg)`, `!x`, `(x)`, `[a, b]`) and
  `print* = lay* ∘ quote*` wherever quoting succeeds, without any well-formedness condition
  (`printPred_eq`, `printExpr_eq`, `printRule_eq`, `printCheck_eq`): the string stack machine of
  `Expression.Print` and the tree stack machine `Quote.quoteOps` run in lock step.
* `seg_layItem : Seg (layItem it) (renderItem it)` for every statement that is well formed as a
  tree (`C14Items.ItemWF`), lexically (`C14Text.itemLexOK`) and whose method receivers end in a
  token that tolerates a directly following `.` (`itemDotOK`); consequences for the lexer
  and the parser.
* Content level: the printable domain (`printable*`).  The quoted tree of printable content is
  well formed in every respect `seg_layItem` needs and denotes the content, every set in printed
  order (`Quote.norm*`): one statement per class for literals, terms and predicates (`quoteAtom_ok`,
  `quoteTerm_ok`, `quotePred_ok`); from expressions on, where quoting can fail, existence and
  well-formedness (`quoteExpr_ok` … `quoteCheck_ok`: `ItemWF`, `itemLexOK`, `itemDotOK`) apart
  from the denotation of whatever tree was quoted (`denoteExpr_quote` … `denoteItems_check`;
  `toPostfix_quoteOps`: the tree machine inverts the postfix emission).  UTF-8:
  `charsOfBytes (strBytes s) = s.toList`.

Literal writers against literal readers (digits, hex, dates): `Proofs/PrintDates`.
-/
import BiscuitModel.Model.Quote
import BiscuitModel.Proofs.ListOption
import BiscuitModel.Proofs.PrintDates
import BiscuitModel.Props.C14Text
import BiscuitModel.Props.C14Layout
import BiscuitModel.Props.C15

namespace Biscuit.PrintText
open Biscuit Biscuit.Grammar Biscuit.Printer Biscuit.Render Biscuit.Quote Biscuit.C14Lexer
open Biscuit.C14Layout Biscuit.C14Text Biscuit.PrintDates

/-- `cs` is the token list `ts` (non-empty, well-formed tokens) written with an admissible
layout and WITHOUT a gap after the last token. -/
def Seg (cs : List Char) (ts : List Tok) : Prop :=
  (∀ t ∈ ts, TokWF t) ∧
  ∃ gaps : List (List Char), gaps.length + 1 = ts.length ∧ cs = spellWith gaps ts ∧ LayoutOK gaps ts

theorem Seg.ne_nil {cs ts} (h : Seg cs ts) : ts ≠ [] := by
  obtain ⟨_, gaps, hl, _, _⟩ := h
  intro e; subst e; simp at hl

theorem seg_single (t : Tok) (h : TokWF t) : Seg (spellTok t) [t] :=
  ⟨by simpa using h, [], rfl, by simp [spellWith], rfl⟩

/-- The junction condition: an empty gap is allowed only where `needSep` says so. -/
def junction (g : List Char) (t1 t2 : List Tok) : Prop :=
  g.all isBlank = true ∧ (g ≠ [] ∨ ∀ a ∈ t1.getLast?, ∀ b ∈ t2.head?, needSep a b = false)

theorem spellWith_append (gaps1 : List (List Char)) (t1 : List Tok) (g : List Char) (gaps2 : List (List Char))
    (t2 : List Tok) (h : gaps1.length + 1 = t1.length) :
    spellWith (gaps1 ++ g :: gaps2) (t1 ++ t2) = spellWith gaps1 t1 ++ (g ++ spellWith gaps2 t2) := by
  -- by the clauses of `spellWith`; `h` puts `g` exactly after the last token of `t1`
  fun_induction spellWith gaps1 t1 <;> simp_all [spellWith]

theorem layoutOK_append (gaps1 : List (List Char)) (t1 : List Tok) (g : List Char) (gaps2 : List (List Char))
    (t2 : List Tok) (h : gaps1.length + 1 = t1.length) (hne : t2 ≠ []) (h1 : layoutOK gaps1 t1 = true)
    (h2 : layoutOK gaps2 t2 = true) (hj : junction g t1 t2) :
    layoutOK (gaps1 ++ g :: gaps2) (t1 ++ t2) = true := by
  cases t2 with
  | nil => exact absurd rfl hne
  | cons b r2 =>
    -- by the clauses of `layoutOK`; where `t1` is down to its last token, `hj` is the condition on `g`
    fun_induction layoutOK gaps1 t1 <;> simp_all [layoutOK, junction]

theorem Seg.append {c1 c2 : List Char} {t1 t2 : List Tok} (h1 : Seg c1 t1) (h2 : Seg c2 t2)
    (g : List Char) (hj : junction g t1 t2) : Seg (c1 ++ (g ++ c2)) (t1 ++ t2) := by
  have hne := h2.ne_nil
  obtain ⟨w1, gaps1, l1, e1, o1⟩ := h1
  obtain ⟨w2, gaps2, l2, e2, o2⟩ := h2
  refine ⟨fun t ht => ?_, gaps1 ++ g :: gaps2, by simp; omega, ?_, ?_⟩
  · rcases List.mem_append.1 ht with h | h
    · exact w1 t h
    · exact w2 t h
  · rw [spellWith_append gaps1 t1 g gaps2 t2 l1, ← e1, ← e2]
  · exact layoutOK_append gaps1 t1 g gaps2 t2 l1 hne o1 o2 hj

def layAtom (t : PTerm) : List Char := (atomToks t).flatMap spellTok

def layTerm : PTerm → List Char
  | .set elts => ['['] ++ joinC ", ".toList (elts.map layAtom) ++ [']']
  | t => layAtom t

def layPred (p : PPred) : List Char :=
  p.name.toList ++ ['('] ++ joinC ", ".toList (p.terms.map layTerm) ++ [')']

def layExpr : PExpr → List Char
  | .term t => layTerm t
  | .paren e => ['('] ++ layExpr e ++ [')']
  | .neg e => '!' :: layExpr e
  | .bin op l r => layExpr l ++ [' '] ++ (binSymbol op).getD [] ++ [' '] ++ layExpr r
  | .method op recv arg => layExpr recv ++ ['.'] ++ methodName op ++ ['('] ++ layExpr arg ++ [')']
  | .length recv => layExpr recv ++ ".length()".toList

def layElem : PElem → List Char
  | .pred p => layPred p
  | .expr e => layExpr e

def layBody (es : List PElem) : List Char := joinC ", ".toList (es.map layElem)

def layRule (r : PRule) : List Char := layPred r.head ++ " <- ".toList ++ layBody r.body

def layQueries (qs : List (List PElem)) : List Char := joinC " or ".toList (qs.map layBody)

def layCheck (c : PCheck) : List Char := "check if ".toList ++ layQueries c.queries

def layPolicy (p : PPolicy) : List Char := (policyKeyword p.allow).toList ++ [' '] ++ layQueries p.queries

def layItem : PItem → List Char
  | .fact p => layPred p
  | .rule r => layRule r
  | .check c => layCheck c
  | .policy p => layPolicy p

theorem quoteAtom_ofNat (n : Nat) : quoteAtom (.int (Int.ofNat n)) = .int (natDigits n) := by
  have : ¬ ((n : Int) < 0) := by omega
  show quoteAtom (.int (n : Int)) = _
  simp only [quoteAtom, this, if_false, printInt_ofNat]

theorem quoteAtom_negSucc (m : Nat) : quoteAtom (.int (Int.negSucc m)) = .negInt (natDigits (m + 1)) := by
  have : (Int.negSucc m) < 0 := Int.negSucc_lt_zero m
  simp only [quoteAtom, this, if_true]
  rfl

theorem atomWF_quoteAtom (a : Atom) : C14.AtomTermWF (quoteAtom a) := by
  cases a with
  | int i =>
    cases i with
    | ofNat n => rw [quoteAtom_ofNat]; trivial
    | negSucc m => rw [quoteAtom_negSucc]; trivial
  | _ => trivial

theorem layTerm_atom {t : PTerm} (h : C14.AtomTermWF t) : layTerm t = layAtom t := by
  cases t <;> first | rfl | exact absurd h id

theorem termLexOK_atom {t : PTerm} (h : C14.AtomTermWF t) : termLexOK t = atomLexOK t := by
  cases t <;> first | rfl | exact absurd h id

theorem denoteTerm_atom (ps : Params) {t : PTerm} (h : C14.AtomTermWF t) :
    denoteTerm ps t = denoteAtomTerm ps t := by
  cases t <;> first | rfl | exact absurd h id

/- Each case is stated with `show`: unfolding `printAtom` by its equations (`simp [printAtom]`) makes
Lean derive them first, which is slow over the string literals of its `bool` and `bytes` cases. -/
theorem printAtom_eq (a : Atom) : printAtom a = layAtom (quoteAtom a) := by
  cases a with
  | bool b => cases b <;> rfl
  | int i =>
    cases i with
    | ofNat n =>
      rw [quoteAtom_ofNat]
      show natDigits n = layAtom (.int (natDigits n))
      simp [layAtom, atomToks, spellTok]
    | negSucc m =>
      rw [quoteAtom_negSucc]
      show printInt (Int.negSucc m) = layAtom (.negInt (natDigits (m + 1)))
      simp [layAtom, atomToks, spellTok, printInt_negSucc]
  | str s =>
    show ['"'] ++ charsOfBytes s ++ ['"'] = layAtom (.str (charsOfBytes s))
    simp [layAtom, atomToks, spellTok]
  | date d =>
    show printDate d = layAtom (.date (printDate d))
    simp [layAtom, atomToks, spellTok]
  | bytes b =>
    show "hex:".toList ++ printHex b = layAtom (.bytes (printHex b))
    simp only [layAtom, atomToks, spellTok, hexLit_eq, List.flatMap_cons, List.flatMap_nil,
      List.append_nil, List.cons_append, List.nil_append]

theorem map_insertSortedA (x : Atom) (l : List Atom) :
    (insertSortedA x l).map printAtom = insertSortedC (printAtom x) (l.map printAtom) := by
  induction l with
  | nil => rfl
  | cons y ys ih =>
    simp only [insertSortedA, List.map_cons, insertSortedC]
    split
    · rfl
    · simp [ih]

theorem map_sortA (l : List Atom) : (sortA l).map printAtom = sortC (l.map printAtom) := by
  unfold sortA sortC
  rw [List.foldl_map]
  exact (List.foldl_hom (List.map printAtom) (fun acc x => (map_insertSortedA x acc).symm)).symm

theorem printTerm_eq (t : Term Val) : printTerm t = layTerm (quoteTerm t) := by
  cases t with
  | var n => simp [printTerm, quoteTerm, layTerm, layAtom, atomToks, spellTok, quoteName]
  | const v =>
    cases v with
    | atom a =>
      rw [printTerm, quoteTerm, printAtom_eq, layTerm_atom (atomWF_quoteAtom a)]
    | set l =>
      simp only [printTerm, quoteTerm, layTerm, List.map_map]
      rw [← map_sortA]
      congr 3
      exact List.map_congr_left (fun a _ => printAtom_eq a)

theorem printPred_eq (p : Pred Val) : printPred p = layPred (quotePred p) := by
  simp only [printPred, layPred, quotePred, quoteName, String.toList_ofList, List.map_map]
  congr 3
  simp [printTerm_eq]

theorem printUnary_eq (u : UnOp) (e : PExpr) : printUnary u (layExpr e) = layExpr (quoteUnary u e) := by
  cases u <;> rfl

theorem printBinary_eq (b : BinOp) (l r : PExpr) :
    printBinary b (layExpr l) (layExpr r) = layExpr (quoteBinary b l r) := by
  cases b <;> rfl

/- The clauses of `quoteOps`, for this and the two later inductions over it: 1 end with one tree,
2 end with none or several, 3 value, 4 unary, 5 unary on the empty stack, 6 binary, 7 binary on a
stack of fewer than two. -/
theorem printOps_eq (ops : List Op) (st : List PExpr) :
    printOps ops (st.map layExpr) = (quoteOps ops st).map layExpr := by
  fun_induction quoteOps ops st with
  | case1 e => rfl
  | case2 st h =>
    match st, h with
    | [], _ => rfl
    | [e], h => exact (h e rfl).elim
    | _ :: _ :: _, _ => rfl
  | case3 t ops st ih => rw [← ih]; simp only [printOps, printTerm_eq, List.map_cons, layExpr]
  | case4 u ops e st ih => rw [← ih]; simp only [printOps, List.map_cons, printUnary_eq]
  | case5 u ops => rfl
  | case6 b ops r l st ih => rw [← ih]; simp only [printOps, List.map_cons, printBinary_eq]
  | case7 b ops st h =>
    match st, h with
    | [], _ => rfl
    | [_], _ => rfl
    | r :: l :: st, h => exact (h r l st rfl).elim

/-- `<invalid expression>` exactly when no tree is rebuilt. -/
theorem printExpr_quote (ops : Expr) :
    printExpr ops = ((quoteExpr ops).map layExpr).getD "<invalid expression>".toList :=
  congrArg (Option.getD · "<invalid expression>".toList) (printOps_eq ops [])

theorem printExpr_eq (ops : Expr) (e : PExpr) (h : quoteExpr ops = some e) : printExpr ops = layExpr e := by
  rw [printExpr_quote, h]; rfl

theorem joinC_append (sep : List Char) (xs ys : List (List Char)) :
    joinC sep (xs ++ ys) =
      joinC sep xs ++ (if !xs.isEmpty && !ys.isEmpty then sep else []) ++ joinC sep ys := by
  cases ys with
  | nil => simp [joinC]
  | cons y ys => fun_induction joinC sep xs <;> simp_all [joinC]

theorem printBody_eq (body : List (Pred Val)) (exprs : List Expr) (es : List PElem)
    (h : quoteBody body exprs = some es) : printBody body exprs = layBody es := by
  obtain ⟨qs, hm, rfl⟩ := Option.map_eq_some_iff.1 h
  have h1 : body.map printPred = (body.map (fun p => PElem.pred (quotePred p))).map layElem := by
    rw [List.map_map]; exact List.map_congr_left (fun p _ => printPred_eq p)
  have h2 : exprs.map printExpr = (qs.map PElem.expr).map layElem := by
    rw [List.map_eq_of_mapM hm (fun x _ e he => printExpr_eq x e he), List.map_map]; rfl
  have e1 : (body.map printPred).isEmpty = body.isEmpty := by cases body <;> rfl
  have e2 : (exprs.map printExpr).isEmpty = exprs.isEmpty := by cases exprs <;> rfl
  unfold printBody layBody
  rw [List.map_append, joinC_append, ← h1, ← h2, e1, e2]

theorem printRule_eq (r : DRule) (pr : PRule) (h : quoteRule r = some pr) :
    printRule r = layRule pr := by
  obtain ⟨b, hb, rfl⟩ := Option.map_eq_some_iff.1 h
  unfold printRule layRule
  rw [printPred_eq, printBody_eq _ _ b hb]

theorem printCheck_eq (c : Check) (pc : PCheck) (h : quoteCheck c = some pc) :
    printCheck c = layCheck pc := by
  obtain ⟨qs, hq, rfl⟩ := Option.map_eq_some_iff.1 h
  unfold printCheck layCheck layQueries
  congr 2
  exact List.map_eq_of_mapM hq (fun q _ e he => printBody_eq _ _ e he)

/-- A `.` may follow the token `a` directly. -/
def dotter (a : Tok) : Bool := !needSep a .dot

def LastP (Q : Tok → Bool) (ts : List Tok) : Prop := ∃ a, ts.getLast? = some a ∧ Q a = true

theorem LastP.append {Q : Tok → Bool} (t1 : List Tok) {t2 : List Tok} (h : LastP Q t2) : LastP Q (t1 ++ t2) := by
  obtain ⟨a, ha, hq⟩ := h
  exact ⟨a, by simp [List.getLast?_append, ha], hq⟩

theorem LastP.single {Q : Tok → Bool} {a : Tok} (h : Q a = true) : LastP Q [a] := ⟨a, rfl, h⟩

/-- The receiver of `.method(…)` / `.length()` ends in a token that `.` may follow directly.
False exactly for a DATE literal as receiver (`Grammar.dateCont` lists `.`: a fraction could
follow a date without zone; printed dates end in `Z`, so this is a conservative exclusion). -/
def lastDotOK (ts : List Tok) : Bool :=
  match ts.getLast? with
  | some a => dotter a
  | none => false

def exprDotOK : PExpr → Bool
  | .term _ => true
  | .paren e => exprDotOK e
  | .neg e => exprDotOK e
  | .bin _ l r => exprDotOK l && exprDotOK r
  | .method _ recv arg => exprDotOK recv && lastDotOK (renderToks recv) && exprDotOK arg
  | .length recv => exprDotOK recv && lastDotOK (renderToks recv)

def elemDotOK : PElem → Bool
  | .pred _ => true
  | .expr e => exprDotOK e

def bodyDotOK (es : List PElem) : Bool := es.all elemDotOK

def itemDotOK : PItem → Bool
  | .fact _ => true
  | .rule r => bodyDotOK r.body
  | .check c => c.queries.all bodyDotOK
  | .policy p => p.queries.all bodyDotOK

theorem Seg.tokWF {cs ts} (h : Seg cs ts) : ∀ t ∈ ts, TokWF t := h.1

theorem Seg.appendSp {c1 c2 : List Char} {t1 t2 : List Tok} (h1 : Seg c1 t1) (h2 : Seg c2 t2) :
    Seg (c1 ++ ' ' :: c2) (t1 ++ t2) :=
  h1.append h2 [' '] ⟨rfl, Or.inl (by simp)⟩

theorem Seg.append0 {c1 c2 : List Char} {t1 t2 : List Tok} (h1 : Seg c1 t1) (h2 : Seg c2 t2)
    (hj : ∀ a b, t1.getLast? = some a → t2.head? = some b → needSep a b = false) :
    Seg (c1 ++ c2) (t1 ++ t2) := by
  have := h1.append h2 [] ⟨rfl, Or.inr (fun a ha b hb => hj a b (by simpa using ha) (by simpa using hb))⟩
  simpa using this

theorem Seg.snoc {c : List Char} {ts : List Tok} (h : Seg c ts) (b : Tok) (hb : TokWF b)
    (hj : ∀ a, ts.getLast? = some a → needSep a b = false) : Seg (c ++ spellTok b) (ts ++ [b]) :=
  h.append0 (seg_single b hb) (fun a b' ha hb' => by simp at hb'; subst hb'; exact hj a ha)

theorem Seg.cons {c : List Char} {ts : List Tok} (b : Tok) (hb : TokWF b) (h : Seg c ts)
    (hj : ∀ a, ts.head? = some a → needSep b a = false) : Seg (spellTok b ++ c) (b :: ts) :=
  (seg_single b hb).append0 h (fun a' a ha' ha => by simp at ha'; subst ha'; exact hj a ha)

theorem Seg.cons_open {c : List Char} {ts : List Tok} (p : Char) (hp : p ∈ ['(', '[', '!']) (h : Seg c ts) :
    Seg (p :: c) (.punct p :: ts) := by
  obtain ⟨hw, hin⟩ : TokWF (.punct p) ∧ p ∈ "[!@%^#()_}:;',?".toList := by
    have : ∀ p ∈ ['(', '[', '!'], TokWF (.punct p) ∧ p ∈ "[!@%^#()_}:;',?".toList := by decide
    exact this p hp
  exact Seg.cons (.punct p) hw h
    (fun a ha => needSep_open p hin a (h.tokWF a (List.mem_of_mem_head? (by simp [ha]))))

theorem Seg.snoc_close {c : List Char} {ts : List Tok} (h : Seg c ts) (p : Char) (hp : p ∈ [',', ')', ']']) :
    Seg (c ++ [p]) (ts ++ [.punct p]) := by
  have hw : TokWF (.punct p) := by
    have : ∀ p ∈ [',', ')', ']'], TokWF (.punct p) := by decide
    exact this p hp
  exact h.snoc (.punct p) hw (fun a ha => needSep_close a (h.tokWF a (List.mem_of_getLast? ha)) p hp)

/-- Items joined by a separator (characters `sepC`, token `sepT`): `step` writes a segment, the
separator and a segment. -/
theorem seg_join {α : Type} (f : α → List Char) (r : α → List Tok) (sepC : List Char) (sepT : Tok)
    (step : ∀ {c1 c2 t1 t2}, Seg c1 t1 → Seg c2 t2 → Seg (c1 ++ sepC ++ c2) (t1 ++ sepT :: t2))
    (xs : List α) (hne : xs ≠ []) (h : ∀ x ∈ xs, Seg (f x) (r x)) :
    Seg (joinC sepC (xs.map f)) (joinWith sepT (xs.map r)) := by
  induction xs with
  | nil => exact absurd rfl hne
  | cons x ys ih =>
    cases ys with
    | nil => exact h x (by simp)
    | cons y ys => exact step (h x (by simp)) (ih (by simp) (fun z hz => h z (List.mem_cons_of_mem _ hz)))

theorem seg_join_comma {α : Type} (f : α → List Char) (r : α → List Tok) (xs : List α) (hne : xs ≠ [])
    (h : ∀ x ∈ xs, Seg (f x) (r x)) :
    Seg (joinC ", ".toList (xs.map f)) (joinWith (.punct ',') (xs.map r)) :=
  seg_join f r _ _ (fun s1 s2 => by simpa using (s1.snoc_close ',' (by decide)).appendSp s2) xs hne h

theorem seg_join_or {α : Type} (f : α → List Char) (r : α → List Tok) (xs : List α) (hne : xs ≠ [])
    (h : ∀ x ∈ xs, Seg (f x) (r x)) :
    Seg (joinC " or ".toList (xs.map f)) (joinWith (.ident "or") (xs.map r)) :=
  seg_join f r _ _ (fun s1 s2 => by
    simpa [spellTok] using (s1.appendSp (seg_single (.ident "or") TextRoundtrip.tokWF_or)).appendSp s2) xs hne h

theorem seg_layAtom (t : PTerm) (hw : C14.AtomTermWF t) (hl : atomLexOK t = true) :
    Seg (layAtom t) (atomToks t) := by
  have hwf : ∀ tok ∈ atomToks t, TokWF tok := (atomLexOK_iff t).1 hl
  cases t with
  | set _ => exact absurd hw id
  | negInt ds =>
    -- `-` directly followed by the digits: no blank is needed (nor written) after the sign
    have hd : TokWF (.int ds) := hwf _ (by simp [atomToks])
    simpa [layAtom, atomToks, spellTok] using (seg_single (.op "-") (by decide)).snoc (.int ds) hd
      (fun a ha => by simp at ha; subst ha; exact needSep_minus_int ds hd)
  | _ => simpa [layAtom, atomToks] using seg_single _ (hwf _ (by simp [atomToks]))

theorem seg_layTerm (t : PTerm) (hw : C14.TermWF t) (hl : termLexOK t = true) :
    Seg (layTerm t) (renderTermToks t) := by
  cases t with
  | set elts =>
    obtain ⟨hne, hat⟩ := hw
    simp only [termLexOK, List.all_eq_true] at hl
    have sj := seg_join_comma layAtom atomToks elts hne (fun x hx => seg_layAtom x (hat x hx) (hl x hx))
    rw [renderTermToks_set, joinToks_eq_joinWith]
    simpa [layTerm] using (sj.cons_open '[' (by decide)).snoc_close ']' (by decide)
  | _ => exact seg_layAtom _ trivial hl   -- not a set: `layTerm`, `renderTermToks`, `termLexOK` are the atom versions

theorem seg_layPred (p : PPred) (hw : C14Items.PredWF p) (hl : predLexOK p = true) :
    Seg (layPred p) (renderPred p) := by
  simp only [predLexOK, Bool.and_eq_true, List.all_eq_true] at hl
  obtain ⟨hn, ht⟩ := hl
  -- the name directly followed by the parenthesised group (a segment: `Seg.cons_open`)
  have key : ∀ {cp : List Char} {tp : List Tok}, Seg cp (.punct '(' :: tp) →
      Seg (p.name.toList ++ cp) (.ident p.name :: .punct '(' :: tp) := fun sp =>
    Seg.cons (.ident p.name) hn sp (fun a ha => by
      simp at ha; subst ha; exact (needSep_closing '(' (by decide)).1 _)
  cases hts : p.terms with
  | nil =>
    simpa [layPred, renderPred, renderTerms, hts, joinC, joinWith, spellTok] using
      key ((seg_single (.punct ')') TextRoundtrip.tokWF_rparen).cons_open '(' (by decide))
  | cons t ts =>
    have sj := seg_join_comma layTerm renderTermToks p.terms (by simp [hts])
      (fun x hx => seg_layTerm x (hw x hx) (ht x hx))
    have s2 := key ((sj.snoc_close ')' (by decide)).cons_open '(' (by decide))
    rw [hts] at s2
    simpa [layPred, renderPred, renderTerms, hts, List.append_assoc] using s2

theorem binSymbol_binTok (op : BinOp) : binSymbol op = (binTok op).map spellTok := by
  cases op <;> rfl

theorem methodName_methodTok (op : BinOp) (h : C14.isMethodOp op = true) :
    methodName op = spellTok (methodTok op) := by
  cases op <;> first | rfl | simp [C14.isMethodOp] at h

theorem needSep_methodTok_lparen (op : BinOp) : needSep (methodTok op) (.punct '(') = false := by
  cases op <;> decide

/-- A receiver followed directly by `.`, a method name and a parenthesised group (`(arg)` or `()`,
itself a segment by `Seg.cons_open`). -/
theorem Seg.snoc_call {c cp : List Char} {ts tp : List Tok} (h : Seg c ts) (hd : lastDotOK ts = true) (mt : Tok)
    (hmt : TokWF mt) (hp : needSep mt (.punct '(') = false) (sp : Seg cp (.punct '(' :: tp)) :
    Seg (c ++ '.' :: (spellTok mt ++ cp)) (ts ++ .dot :: mt :: .punct '(' :: tp) := by
  have s1 := h.snoc .dot TextRoundtrip.tokWF_dot (fun a ha => by simpa [lastDotOK, ha, dotter] using hd)
  have s2 := s1.snoc mt hmt (fun a ha => by simp at ha; subst ha; exact needSep_dot _ hmt)
  have s3 := s2.append0 sp (fun a b ha hb => by simp at ha hb; subst ha hb; exact hp)
  simpa [spellTok, List.append_assoc] using s3

theorem seg_layExpr (e : PExpr) (hwf : C14.WF e) (hlex : exprLexOK e = true) (hdot : exprDotOK e = true) :
    Seg (layExpr e) (renderToks e) := by
  induction e with
  | term t => exact seg_layTerm t hwf hlex
  | paren e ih =>
    simpa [layExpr, renderToks] using
      ((ih hwf hlex hdot).snoc_close ')' (by decide)).cons_open '(' (by decide)
  | neg e ih => simpa [layExpr, renderToks] using (ih hwf.1 hlex hdot).cons_open '!' (by decide)
  | bin op l r ihl ihr =>
    obtain ⟨t, ht⟩ := Option.isSome_iff_exists.mp (C15.wf_opsOK _ hwf).1
    obtain ⟨wl, wr, _⟩ := hwf
    simp only [exprLexOK, Bool.and_eq_true] at hlex
    simp only [exprDotOK, Bool.and_eq_true] at hdot
    have s := ((ihl wl hlex.1.1 hdot.1).appendSp (seg_single t (TextRoundtrip.binTok_tokWF op t ht))).appendSp
      (ihr wr hlex.2 hdot.2)
    simpa [layExpr, renderToks, binSymbol_binTok, ht, List.append_assoc] using s
  | method op recv arg ihr iha =>
    obtain ⟨hm, wr, wa, _⟩ := hwf
    simp only [exprLexOK, Bool.and_eq_true] at hlex
    simp only [exprDotOK, Bool.and_eq_true] at hdot
    have s := (ihr wr hlex.1.1 hdot.1.1).snoc_call hdot.1.2 (methodTok op) hlex.1.2 (needSep_methodTok_lparen op)
      (((iha wa hlex.2 hdot.2).snoc_close ')' (by decide)).cons_open '(' (by decide))
    simpa [layExpr, renderToks, methodName_methodTok op hm, spellTok, List.append_assoc] using s
  | length recv ih =>
    simp only [exprDotOK, Bool.and_eq_true] at hdot
    have s := (ih hwf.1 hlex hdot.1).snoc_call hdot.2 (.func "length") TextRoundtrip.tokWF_length (by decide)
      ((seg_single (.punct ')') TextRoundtrip.tokWF_rparen).cons_open '(' (by decide))
    simpa [layExpr, renderToks, spellTok, List.append_assoc] using s

theorem checkIf_toList : "check if ".toList = "check if".toList ++ [' '] := by decide

theorem seg_layElem (e : PElem) (hw : C14Items.ElemWF e) (hl : elemLexOK e = true) (hd : elemDotOK e = true) :
    Seg (layElem e) (renderElem e) := by
  cases e with
  | pred p => exact seg_layPred p hw hl
  | expr e => exact seg_layExpr e hw hl hd

theorem seg_layBody (es : List PElem) (hw : C14Items.BodyWF es) (hl : bodyLexOK es = true)
    (hd : bodyDotOK es = true) : Seg (layBody es) (renderBody es) := by
  simp only [bodyLexOK, List.all_eq_true] at hl
  simp only [bodyDotOK, List.all_eq_true] at hd
  exact seg_join_comma layElem renderElem es hw.1 (fun x hx => seg_layElem x (hw.2 x hx) (hl x hx) (hd x hx))

theorem seg_layQueries (qs : List (List PElem)) (hw : C14Items.QueriesWF qs) (hl : queriesLexOK qs = true)
    (hd : qs.all bodyDotOK = true) : Seg (layQueries qs) (renderQueries qs) := by
  simp only [queriesLexOK, List.all_eq_true] at hl
  simp only [List.all_eq_true] at hd
  exact seg_join_or layBody renderBody qs hw.1 (fun q hq => seg_layBody q (hw.2 q hq) (hl q hq) (hd q hq))

theorem seg_layItem (it : PItem) (hw : C14Items.ItemWF it) (hl : itemLexOK it = true)
    (hd : itemDotOK it = true) : Seg (layItem it) (renderItem it) := by
  cases it with
  | fact p => exact seg_layPred p hw hl
  | rule r =>
    simp only [itemLexOK, ruleLexOK, Bool.and_eq_true] at hl
    have sh := seg_layPred r.head hw.1 hl.1
    have sb := seg_layBody r.body hw.2 hl.2 hd
    simpa [layItem, layRule, renderItem, renderRule, spellTok] using
      (sh.appendSp (seg_single .arrow TextRoundtrip.tokWF_arrow)).appendSp sb
  | check c =>
    have sq := seg_layQueries c.queries hw hl hd
    have s := (seg_single (.keyword "check if") TextRoundtrip.tokWF_check).appendSp sq
    -- by hand: `simp` with the two string literals in the goal does not come back
    have e1 : layItem (.check c) = spellTok (.keyword "check if") ++ ' ' :: layQueries c.queries := by
      show "check if ".toList ++ layQueries c.queries = "check if".toList ++ ' ' :: layQueries c.queries
      rw [checkIf_toList, List.append_assoc]; rfl
    rw [e1]; exact s
  | policy p =>
    have sq := seg_layQueries p.queries hw hl hd
    simpa [layItem, layPolicy, renderItem, renderPolicy, spellTok] using
      (seg_single (.keyword (policyKeyword p.allow)) (TextRoundtrip.tokWF_policy p.allow)).appendSp sq

theorem Seg.layout {cs : List Char} {ts : List Tok} (h : Seg cs ts) :
    ∃ gaps : List (List Char), gaps.length + 1 = ts.length ∧ cs = spellWith gaps ts ∧ LayoutOK gaps ts := h.2

theorem Seg.lex {cs : List Char} {ts : List Tok} (h : Seg cs ts) : lex cs = some ts := by
  obtain ⟨hw, gaps, _, e, ok⟩ := h
  exact lex_of_layout cs [] gaps ts (by simpa using e) rfl hw ok

theorem parseSingleText_of_seg (it : PItem) (hw : C14Items.ItemWF it) {cs : List Char}
    (h : Seg cs (renderItem it)) : parseSingleText cs = some it := by
  simp only [parseSingleText, h.lex, Option.bind_some, C14Items.parseSingle_render it hw]

/-- The bytes are the UTF-8 encoding of the characters the printer decodes them to
(`charsOfBytes` gives the empty text for invalid UTF-8). -/
def utf8OK (b : Bytes) : Bool := strBytes (String.ofList (charsOfBytes b)) == b

/-- 10000-01-01T00:00:00Z: from here on the year has five digits. -/
def maxDate : Nat := 253402300800

def printableAtom : Atom → Bool
  | .int i => decide (-(2 ^ 63) ≤ i) && decide (i < 2 ^ 63)     -- int64
  | .str s => utf8OK s && (charsOfBytes s).all (· != '"')
  | .date d => decide (d < maxDate)
  | .bytes _ => true
  | .bool _ => true

def printableTerm : Term Val → Bool
  | .var n => utf8OK n && nameOK (charsOfBytes n)
  | .const (.atom a) => printableAtom a
  | .const (.set l) => !l.isEmpty && l.all printableAtom

def printablePred (p : Pred Val) : Bool :=
  utf8OK p.name && identOK (charsOfBytes p.name) && p.terms.all printableTerm

def printableOp : Op → Bool
  | .value t => printableTerm t
  | _ => true

-- `C14Items.decWF` once more; `decide (C14.WF t)` in `printableExpr` is elaborated with this one
instance (e : PExpr) : Decidable (C14.WF e) := C14Items.decWF e

def printableExpr (e : Expr) : Bool :=
  e.all printableOp &&
    match quoteExpr e with
    | some t => decide (C14.WF t) && exprDotOK t
    | none => false

def printableBody (body : List (Pred Val)) (exprs : List Expr) : Bool :=
  body.all printablePred && exprs.all printableExpr && !(body.isEmpty && exprs.isEmpty)

def printableRule (r : DRule) : Bool := printablePred r.head && printableBody r.body r.exprs

def printableCheck (c : Check) : Bool :=
  !c.queries.isEmpty && c.queries.all fun q => printableBody q.body q.exprs

theorem mem_insertSortedA (x a : Atom) (l : List Atom) : x ∈ insertSortedA a l ↔ x = a ∨ x ∈ l := by
  fun_induction insertSortedA a l <;> simp_all [or_left_comm]

theorem mem_sortA (x : Atom) (l : List Atom) : x ∈ sortA l ↔ x ∈ l := by
  unfold sortA
  suffices h : ∀ acc : List Atom, x ∈ l.foldl (fun acc x => insertSortedA x acc) acc ↔ x ∈ acc ∨ x ∈ l by
    simpa using h []
  induction l with
  | nil => intro acc; simp
  | cons y ys ih => intro acc; simp [ih, mem_insertSortedA, or_assoc, or_left_comm]

theorem sortA_ne_nil (l : List Atom) (h : l ≠ []) : sortA l ≠ [] := by
  obtain ⟨x, hx⟩ := List.exists_mem_of_ne_nil l h
  exact List.ne_nil_of_mem ((mem_sortA x l).2 hx)

theorem int_cases (i : Int) (h : 0 ≤ i) : ∃ n : Nat, i = (n : Int) := ⟨i.toNat, by omega⟩

theorem utf8OK_spec (b : Bytes) (h : utf8OK b = true) : strBytes (String.ofList (charsOfBytes b)) = b := by
  simpa [utf8OK] using h

theorem quoteAtom_ok (a : Atom) (h : printableAtom a = true) :
    atomLexOK (quoteAtom a) = true ∧ denoteAtomTerm [] (quoteAtom a) = some (.const (.atom a)) := by
  cases a with
  | int i =>
    simp only [printableAtom, Bool.and_eq_true, decide_eq_true_eq] at h
    -- `atomLexOK` asks the same of the digits of `.int` and of `.negInt`
    have hd : ∀ n, (!(natDigits n).isEmpty && (natDigits n).all isDigit) = true := fun n => by
      simp [natDigits_all, natDigits_ne_nil]
    cases i with
    | ofNat n =>
      have hn : n < 2 ^ 63 := by have := h.2; rw [show Int.ofNat n = (n : Int) from rfl] at this; omega
      rw [quoteAtom_ofNat]
      exact ⟨hd n, by simp only [denoteAtomTerm, natOfDigits_natDigits, hn, if_true]; rfl⟩
    | negSucc m =>
      have hn : m + 1 ≤ 2 ^ 63 := by have := h.1; omega
      rw [quoteAtom_negSucc]
      exact ⟨hd (m + 1), by simp only [denoteAtomTerm, natOfDigits_natDigits, hn, if_true]; rfl⟩
  | str s =>
    simp only [printableAtom, Bool.and_eq_true] at h
    exact ⟨h.2, by simp only [quoteAtom, denoteAtomTerm, utf8OK_spec s h.1]⟩
  | date d =>
    obtain ⟨hl, hu⟩ := printDate_roundtrip d (of_decide_eq_true h)
    have : (d : Int) ≥ 0 := by omega
    exact ⟨by simp [quoteAtom, atomLexOK, hl], by simp [quoteAtom, denoteAtomTerm, hu, this]⟩
  | bytes b =>
    obtain ⟨hall, hlen, hb⟩ := printHex_spec b
    have : (printHex b).length % 2 = 0 := by rw [hlen]; omega
    exact ⟨by simp [quoteAtom, atomLexOK, hall, this],
      by simp only [quoteAtom, denoteAtomTerm, this, if_true, hb]⟩
  | bool b => exact ⟨rfl, rfl⟩

theorem quoteTerm_ok (t : Term Val) (h : printableTerm t = true) :
    C14.TermWF (quoteTerm t) ∧ termLexOK (quoteTerm t) = true ∧
      denoteTerm [] (quoteTerm t) = some (normTerm t) := by
  cases t with
  | var n =>
    simp only [printableTerm, Bool.and_eq_true] at h
    refine ⟨trivial, ?_, ?_⟩
    · simpa only [quoteTerm, termLexOK, atomLexOK, quoteName, String.toList_ofList] using h.2
    · simp only [quoteTerm, denoteTerm, denoteAtomTerm, quoteName, utf8OK_spec n h.1, normTerm]
  | const v =>
    cases v with
    | atom a =>
      have hw := atomWF_quoteAtom a
      rw [quoteTerm, termLexOK_atom hw, denoteTerm_atom [] hw]
      exact ⟨termOK_of_atomOK hw, quoteAtom_ok a h⟩
    | set l =>
      simp only [printableTerm, Bool.and_eq_true, Bool.not_eq_true', List.isEmpty_eq_false_iff,
        List.all_eq_true] at h
      have ha := fun a (hm : a ∈ sortA l) => quoteAtom_ok a (h.2 a ((mem_sortA a l).1 hm))
      refine ⟨⟨by simpa using sortA_ne_nil l h.1, fun x hx => ?_⟩, ?_, ?_⟩
      · obtain ⟨a, _, rfl⟩ := List.mem_map.1 hx
        exact atomWF_quoteAtom a
      · simp only [quoteTerm, termLexOK, List.all_map, List.all_eq_true]
        exact fun a hm => (ha a hm).1
      · have h1 := List.mapM_map_some quoteAtom (denoteAtomTerm []) (fun a => .const (.atom a)) (sortA l)
          (fun a hm => (ha a hm).2)
        have h2 := List.mapM_map_some (fun a => (.const (.atom a) : Term Val)) atomOfTerm id (sortA l)
          (fun a _ => rfl)
        simp [quoteTerm, denoteTerm, h1, h2, normTerm]

theorem quotePred_ok (p : Pred Val) (h : printablePred p = true) :
    C14Items.PredWF (quotePred p) ∧ predLexOK (quotePred p) = true ∧
      denotePred [] (quotePred p) = some (normPred p) := by
  simp only [printablePred, Bool.and_eq_true, List.all_eq_true] at h
  obtain ⟨⟨hu, hn⟩, ht⟩ := h
  have hq := fun t (hm : t ∈ p.terms) => quoteTerm_ok t (ht t hm)
  refine ⟨fun x hx => ?_, ?_, ?_⟩
  · obtain ⟨t, hm, rfl⟩ := List.mem_map.1 hx
    exact (hq t hm).1
  · simp only [predLexOK, quotePred, quoteName, String.toList_ofList, Bool.and_eq_true, List.all_map,
      List.all_eq_true]
    exact ⟨hn, fun t hm => (hq t hm).2.1⟩
  · have h1 := List.mapM_map_some quoteTerm (denoteTerm []) normTerm p.terms (fun t hm => (hq t hm).2.2)
    simp only [denotePred, quotePred, h1, quoteName, utf8OK_spec p.name hu, normPred]
    rfl

theorem exprLexOK_quoteUnary (u : UnOp) (e : PExpr) : exprLexOK (quoteUnary u e) = exprLexOK e := by
  cases u <;> rfl

theorem exprLexOK_quoteBinary (b : BinOp) (l r : PExpr) :
    exprLexOK (quoteBinary b l r) = (exprLexOK l && exprLexOK r) := by
  cases b <;> simp [quoteBinary, binSymbol, exprLexOK, opTokOK_true, methodTok_tokWF, C14.isMethodOp]

theorem exprLexOK_quoteOps (ops : List Op) (st : List PExpr) (e : PExpr) (h : quoteOps ops st = some e)
    (hv : ops.all printableOp = true) (hst : ∀ x ∈ st, exprLexOK x = true) : exprLexOK e = true := by
  fun_induction quoteOps ops st with
  | case1 e' => cases h; exact hst _ (by simp)
  | case2 | case5 | case7 => cases h
  | case3 t ops st ih =>
    simp only [List.all_cons, Bool.and_eq_true] at hv
    exact ih h hv.2 (List.forall_mem_cons.2 ⟨(quoteTerm_ok t hv.1).2.1, hst⟩)
  | case4 u ops e0 st ih =>
    simp only [List.all_cons, Bool.and_eq_true, List.forall_mem_cons] at hv hst
    exact ih h hv.2 (List.forall_mem_cons.2 ⟨(exprLexOK_quoteUnary u e0).trans hst.1, hst.2⟩)
  | case6 b ops r l st ih =>
    simp only [List.all_cons, Bool.and_eq_true, List.forall_mem_cons] at hv hst
    exact ih h hv.2 (List.forall_mem_cons.2 ⟨by rw [exprLexOK_quoteBinary, hst.2.1, hst.1]; rfl, hst.2.2⟩)

theorem printableExpr_spec (e : Expr) : printableExpr e = true ↔
    e.all printableOp = true ∧ ∃ t, quoteExpr e = some t ∧ C14.WF t ∧ exprDotOK t = true := by
  unfold printableExpr
  cases quoteExpr e <;> simp

theorem quoteExpr_ok (e : Expr) (h : printableExpr e = true) :
    ∃ t, quoteExpr e = some t ∧ C14.WF t ∧ exprLexOK t = true ∧ exprDotOK t = true := by
  obtain ⟨hv, t, hq, hw, hd⟩ := (printableExpr_spec e).1 h
  exact ⟨t, hq, hw, exprLexOK_quoteOps e [] t hq hv (by simp), hd⟩

theorem printableBody_spec (body : List (Pred Val)) (exprs : List Expr) : printableBody body exprs = true ↔
    (∀ p ∈ body, printablePred p = true) ∧ (∀ e ∈ exprs, printableExpr e = true) ∧
      (body ≠ [] ∨ exprs ≠ []) := by
  simp only [printableBody, Bool.and_eq_true, List.all_eq_true, Bool.not_eq_true', Bool.and_eq_false_iff,
    List.isEmpty_eq_false_iff, and_assoc]

theorem quoteBody_ok (body : List (Pred Val)) (exprs : List Expr) (h : printableBody body exprs = true) :
    ∃ es, quoteBody body exprs = some es ∧
      C14Items.BodyWF es ∧ bodyLexOK es = true ∧ bodyDotOK es = true := by
  obtain ⟨hb, he, hne⟩ := (printableBody_spec body exprs).1 h
  obtain ⟨ts, hts, hlen, hall⟩ := List.mapM_some_of_forall (fun x hx => quoteExpr_ok x (he x hx))
  refine ⟨body.map (fun p => PElem.pred (quotePred p)) ++ ts.map PElem.expr, by simp [quoteBody, hts], ?_⟩
  have hmem : ∀ e ∈ body.map (fun p => PElem.pred (quotePred p)) ++ ts.map PElem.expr,
      C14Items.ElemWF e ∧ elemLexOK e = true ∧ elemDotOK e = true := by
    intro e hm
    rcases List.mem_append.1 hm with hm | hm
    · obtain ⟨p, hp, rfl⟩ := List.mem_map.1 hm
      exact ⟨(quotePred_ok p (hb p hp)).1, (quotePred_ok p (hb p hp)).2.1, rfl⟩
    · obtain ⟨t, ht, rfl⟩ := List.mem_map.1 hm
      exact hall t ht
  refine ⟨⟨?_, fun e hm => (hmem e hm).1⟩, List.all_eq_true.2 (fun e hm => (hmem e hm).2.1),
    List.all_eq_true.2 (fun e hm => (hmem e hm).2.2)⟩
  rw [Ne, List.append_eq_nil_iff, List.map_eq_nil_iff, List.map_eq_nil_iff, ← List.length_eq_zero_iff (l := ts),
    hlen, List.length_eq_zero_iff]
  exact fun ⟨h1, h2⟩ => hne.elim (absurd h1) (absurd h2)

theorem quoteFact_ok (p : Pred Val) (h : printablePred p = true) :
    C14Items.ItemWF (quoteFact p) ∧ itemLexOK (quoteFact p) = true ∧ itemDotOK (quoteFact p) = true :=
  ⟨(quotePred_ok p h).1, (quotePred_ok p h).2.1, rfl⟩

theorem quoteRule_ok (r : DRule) (h : printableRule r = true) :
    ∃ pr, quoteRule r = some pr ∧
      C14Items.ItemWF (.rule pr) ∧ itemLexOK (.rule pr) = true ∧ itemDotOK (.rule pr) = true := by
  simp only [printableRule, Bool.and_eq_true] at h
  obtain ⟨es, hes, hwf, hlex, hdot⟩ := quoteBody_ok r.body r.exprs h.2
  obtain ⟨hpw, hpl, -⟩ := quotePred_ok r.head h.1
  refine ⟨⟨quotePred r.head, es⟩, by simp [quoteRule, hes], ⟨hpw, hwf⟩, ?_, hdot⟩
  simp only [itemLexOK, ruleLexOK, hpl, hlex, Bool.and_self]

theorem quoteCheck_ok (c : Check) (h : printableCheck c = true) :
    ∃ pc, quoteCheck c = some pc ∧
      C14Items.ItemWF (.check pc) ∧ itemLexOK (.check pc) = true ∧ itemDotOK (.check pc) = true := by
  simp only [printableCheck, Bool.and_eq_true, Bool.not_eq_true', List.isEmpty_eq_false_iff,
    List.all_eq_true] at h
  obtain ⟨ps, hps, hlen, hall⟩ := List.mapM_some_of_forall (f := quoteQuery)
    (fun q hq => quoteBody_ok q.body q.exprs (h.2 q hq))
  refine ⟨⟨ps⟩, by simp [quoteCheck, hps], ⟨?_, fun q hq => (hall q hq).1⟩,
    List.all_eq_true.2 (fun q hq => (hall q hq).2.1), List.all_eq_true.2 (fun q hq => (hall q hq).2.2)⟩
  intro (hnil : ps = [])
  subst hnil
  exact h.1 (List.length_eq_zero_iff.1 hlen.symm)

def quoteOp : Op → POp
  | .value t => .value (quoteTerm t)
  | .unary u => .unary u
  | .binary b => .binary b

theorem toPostfix_quoteUnary (u : UnOp) (e : PExpr) : toPostfix (quoteUnary u e) = toPostfix e ++ [.unary u] := by
  cases u <;> rfl

theorem toPostfix_quoteBinary (b : BinOp) (l r : PExpr) :
    toPostfix (quoteBinary b l r) = toPostfix l ++ toPostfix r ++ [.binary b] := by
  cases b <;> rfl

theorem toPostfix_quoteOps (ops : List Op) (st : List PExpr) (e : PExpr) (h : quoteOps ops st = some e) :
    toPostfix e = st.reverse.flatMap toPostfix ++ ops.map quoteOp := by
  fun_induction quoteOps ops st with
  | case1 e' => cases h; simp
  | case2 | case5 | case7 => cases h
  | case3 t ops st ih => rw [ih h]; simp [toPostfix, quoteOp]
  | case4 u ops e0 st ih => rw [ih h]; simp [toPostfix_quoteUnary, quoteOp]
  | case6 b ops r l st ih => rw [ih h]; simp [toPostfix_quoteBinary, quoteOp]

theorem toPostfix_quoteExpr (ops : Expr) (e : PExpr) (h : quoteExpr ops = some e) :
    toPostfix e = ops.map quoteOp := by
  simpa using toPostfix_quoteOps ops [] e h

theorem denoteOp_quote (o : Op) (h : printableOp o = true) : denoteOp [] (quoteOp o) = some (normOp o) := by
  cases o with
  | value t => simp only [quoteOp, denoteOp, (quoteTerm_ok t h).2.2, Option.map_some, normOp]
  | unary u => rfl
  | binary b => rfl

theorem denoteExpr_quote (ops : Expr) (e : PExpr) (hq : quoteExpr ops = some e)
    (hv : ops.all printableOp = true) : denoteExpr [] e = some (normExpr ops) := by
  rw [denoteExpr, toPostfix_quoteExpr ops e hq]
  exact List.mapM_map_some quoteOp (denoteOp []) normOp ops
    (fun o ho => denoteOp_quote o (List.all_eq_true.1 hv o ho))

theorem filterMap_const_none {α β : Type} (l : List α) : l.filterMap (fun _ => (none : Option β)) = [] :=
  List.filterMap_eq_nil_iff.2 (fun _ _ => rfl)

theorem denoteBody_quote (body : List (Pred Val)) (exprs : List Expr) (es : List PElem)
    (hq : quoteBody body exprs = some es) (hb : ∀ p ∈ body, printablePred p = true)
    (he : ∀ x ∈ exprs, x.all printableOp = true) :
    denoteBody [] es = some (body.map normPred, exprs.map normExpr) := by
  obtain ⟨ts, hm, rfl⟩ := Option.map_eq_some_iff.1 hq
  have d1 := List.mapM_map_some quotePred (denotePred []) normPred body
    (fun p hp => (quotePred_ok p (hb p hp)).2.2)
  have d2 := List.mapM_comp_of_mapM hm (fun x hx e hq => denoteExpr_quote x e hq (he x hx))
  simp [denoteBody, List.filterMap_append, List.filterMap_map, Function.comp_def, d1, d2, filterMap_const_none]

theorem denoteBody_printable (body : List (Pred Val)) (exprs : List Expr) (es : List PElem)
    (hq : quoteBody body exprs = some es) (h : printableBody body exprs = true) :
    denoteBody [] es = some (body.map normPred, exprs.map normExpr) :=
  have ⟨hb, he, _⟩ := (printableBody_spec body exprs).1 h
  denoteBody_quote body exprs es hq hb fun x hx => ((printableExpr_spec x).1 (he x hx)).1

theorem denoteItems_fact (p : Pred Val) (h : printablePred p = true) :
    denoteItems [] [quoteFact p] =
      some { facts := [normPred p], rules := [], checks := [], policies := [] } := by
  simp [denoteItems, quoteFact, (quotePred_ok p h).2.2]

theorem denoteItems_rule (r : DRule) (pr : PRule) (hq : quoteRule r = some pr) (h : printableRule r = true) :
    denoteItems [] [.rule pr] =
      some { facts := [], rules := [normRule r], checks := [], policies := [] } := by
  simp only [printableRule, Bool.and_eq_true] at h
  obtain ⟨es, hb, rfl⟩ := Option.map_eq_some_iff.1 hq
  simp [denoteItems, (quotePred_ok r.head h.1).2.2, denoteBody_printable r.body r.exprs es hb h.2, normRule]

theorem denoteItems_check (c : Check) (pc : PCheck) (hq : quoteCheck c = some pc) (h : printableCheck c = true) :
    denoteItems [] [.check pc] =
      some { facts := [], rules := [], checks := [normCheck c], policies := [] } := by
  simp only [printableCheck, Bool.and_eq_true, List.all_eq_true] at h
  obtain ⟨ps, hm, rfl⟩ := Option.map_eq_some_iff.1 hq
  have dq : ∀ q ∈ c.queries, ∀ es, quoteQuery q = some es → denoteQuery [] es = some (normQuery q) :=
    fun q hq es he => by simp [denoteQuery, denoteBody_printable q.body q.exprs es he (h.2 q hq), normQuery]
  simp [denoteItems, List.mapM_comp_of_mapM hm dq, normCheck]

theorem toList_loop (bs : ByteArray) (i : Nat) (r : List UInt8) (hi : i ≤ bs.size) :
    ByteArray.toList.loop bs i r = r.reverse ++ bs.data.toList.drop i := by
  have e : bs.size = bs.data.toList.length := by rw [Array.length_toList]; rfl
  fun_induction ByteArray.toList.loop bs i r
  case case1 i r hlt ih =>
    rw [ih (by omega), List.drop_eq_getElem_cons (i := i) (by omega)]
    simp [ByteArray.get!, getElem!_pos, hlt]
  case case2 i r hlt => rw [List.drop_eq_nil_of_le (by omega)]; simp

theorem byteArray_toList (bs : ByteArray) : bs.toList = bs.data.toList := by
  unfold ByteArray.toList
  rw [toList_loop bs 0 [] (Nat.zero_le _)]
  simp

theorem charsOfBytes_strBytes (s : String) : charsOfBytes (strBytes s) = s.toList := by
  unfold charsOfBytes strBytes
  have h : ByteArray.mk (s.toUTF8.toList.toArray) = s.toByteArray := by
    rw [byteArray_toList]; simp
  rw [h]
  unfold String.fromUTF8!
  have hv : s.toByteArray.IsValidUTF8 := s.isValidUTF8
  rw [dif_pos hv]
  rfl

end Biscuit.PrintText
