/-
Proofs/Chan — helper lemmas for C11d: APPLY as a relation (`ApplyTrans`, both directions), the
configurations that cannot move (`applyTerminal_cases`: all done, or the stranded one), and the
invariants that exclude the stranded one.
-/
import BiscuitModel.Model.Chan

namespace Biscuit.Chan

/-- The transitions of APPLY, one constructor per clause of `applyStep`. -/
inductive ApplyTrans (rep : Bool) : ApplyCfg → ApplyCfg → Prop
  | send {n s} : ApplyTrans rep ⟨.sending (n + 1), .taking none, s⟩ ⟨.sending n, .taking none, s⟩
  | sendK {n k s} : ApplyTrans rep ⟨.sending (n + 1), .taking (some (k + 1)), s⟩ ⟨.sending n, .taking (some k), s⟩
  | close {k s} : ApplyTrans rep ⟨.sending 0, k, s⟩ ⟨.finished, k, s⟩
  | seeClosed {m s} : ApplyTrans rep ⟨.finished, .taking m, s⟩ ⟨.finished, .returned, s⟩
  | early {p s} : ApplyTrans rep ⟨p, .taking (some 0), s⟩ ⟨p, .returned, rep⟩
  | stop {n k} : ApplyTrans rep ⟨.sending (n + 1), k, true⟩ ⟨.finished, k, true⟩

theorem applyStep_trans {rep : Bool} {c c' : ApplyCfg} (h : c' ∈ applyStep rep c) :
    ApplyTrans rep c c' := by
  obtain ⟨p, k, s⟩ := c
  simp only [applyStep, List.mem_append] at h
  rcases h with (((h | h) | h) | h) | h
  · split at h
    · cases List.mem_singleton.mp h; exact .send
    · cases List.mem_singleton.mp h; exact .sendK
    · cases h
  · split at h
    · cases List.mem_singleton.mp h; exact .close
    · cases h
  · split at h
    · cases List.mem_singleton.mp h; exact .seeClosed
    · cases h
  · split at h
    · cases List.mem_singleton.mp h; exact .early
    · cases h
  · split at h
    · split at h
      · next hs => cases List.mem_singleton.mp h; cases hs; exact .stop
      · cases h
    · cases h

theorem ApplyTrans.mem {rep : Bool} {c c' : ApplyCfg} (h : ApplyTrans rep c c') : c' ∈ applyStep rep c := by
  cases h <;> simp only [applyStep, List.mem_append, List.mem_singleton, true_or, or_true, if_true]

/-- A configuration that cannot move is all done, or is the stranded one: the consumer has
returned without closing `stop` while the producer still has something to send. -/
theorem applyTerminal_cases {rep : Bool} {c : ApplyCfg} (ht : applyTerminal rep c) :
    applyAllDone c ∨ ∃ n, c = ⟨.sending (n + 1), .returned, false⟩ := by
  have stuck : ∀ {c'}, ¬ ApplyTrans rep c c' := fun h => by
    have := h.mem
    rw [ht] at this
    cases this
  obtain ⟨p, k, s⟩ := c
  match p, k, s with
  | .sending 0, _, _ => exact absurd .close stuck
  | .sending (_ + 1), .taking none, _ => exact absurd .send stuck
  | .sending (_ + 1), .taking (some (_ + 1)), _ => exact absurd .sendK stuck
  | _, .taking (some 0), _ => exact absurd .early stuck
  | .sending (_ + 1), .returned, true => exact absurd .stop stuck
  | .sending (n + 1), .returned, false => exact Or.inr ⟨n, rfl⟩
  | .finished, .taking _, _ => exact absurd .seeClosed stuck
  | .finished, .returned, _ => exact Or.inl ⟨rfl, rfl⟩

theorem ApplyReach.invariant {rep : Bool} {c0 c : ApplyCfg} (P : ApplyCfg → Prop) (h0 : P c0)
    (hstep : ∀ {c c'}, P c → c' ∈ applyStep rep c → P c') (hr : ApplyReach rep c0 c) : P c := by
  induction hr with
  | refl => exact h0
  | step _ hs ih => exact hstep ih hs

/-- A returned consumer has either closed `stop` or seen the producer finish. -/
def ApplyInv (c : ApplyCfg) : Prop :=
  c.cons = .returned → (c.stopClosed = true ∨ c.prod = .finished)

theorem applyInv_step {c c' : ApplyCfg} (hi : ApplyInv c) (h : c' ∈ applyStep true c) :
    ApplyInv c' := by
  -- `send`, `sendK` leave the consumer taking; `close`, `seeClosed`, `stop` finish the producer;
  -- `early` closes `stop`
  cases applyStep_trans h <;> simp_all [ApplyInv]

theorem applyInv_terminal {c : ApplyCfg} (hi : ApplyInv c) (ht : applyTerminal true c) :
    applyAllDone c :=
  (applyTerminal_cases ht).resolve_right fun ⟨n, hc⟩ => by
    subst hc
    rcases hi rfl with h | h <;> cases h

/-- Pinned protocol with a consumer that never returns early: it is still ranging, or both are done. -/
def ApplyInvNone (c : ApplyCfg) : Prop :=
  c.cons = .taking none ∨ (c.cons = .returned ∧ c.prod = .finished)

theorem applyInvNone_step {c c' : ApplyCfg} (hi : ApplyInvNone c) (h : c' ∈ applyStep false c) :
    ApplyInvNone c' := by
  -- `sendK`, `early` need a counting consumer, which the invariant excludes; `seeClosed` goes to the
  -- second disjunct; `send`, `close`, `stop` leave the consumer as it is
  cases applyStep_trans h <;> simp_all [ApplyInvNone]

theorem applyInvNone_terminal {c : ApplyCfg} (hi : ApplyInvNone c) (ht : applyTerminal false c) :
    applyAllDone c :=
  (applyTerminal_cases ht).resolve_right fun ⟨n, hc⟩ => by
    subst hc
    rcases hi with h | ⟨_, h⟩ <;> cases h

end Biscuit.Chan
