/-
Proofs/GrammarItems — helper lemmas for C14Items: the statement layer of the parser
(`parsePred`, `parseElem(s)`, `parseQueries`, `parseItem(s)`) re-reads the reference
rendering of `Model/Render`.

Same conventions as `Proofs/Grammar`: `TermOK`, `WFx`, … are the proof-side copies of the
well-formedness predicates of `Props/C14`; `PredOK`, `ElemOK`, … below are the copies of
the ones of `Props/C14Items`.  Fuel is handled by explicit lower bounds.
-/
import BiscuitModel.Model.Render
import BiscuitModel.Proofs.Grammar

namespace Biscuit.Grammar
open Biscuit Biscuit.Printer Biscuit.Render

/-- First token of an expression: what a term starts with, `(` or `!`. -/
def exprStart (x : Tok) : Bool := termStart x || x == .punct '(' || x == .punct '!'

theorem renderToks_head (e : PExpr) :
    ∃ x xs, renderToks e = x :: xs ∧ exprStart x = true := by
  induction e with
  | term t =>
    obtain ⟨x, xs, h, hx⟩ := renderTermToks_head t
    exact ⟨x, xs, h, by simp [exprStart, hx]⟩
  | paren e _ => exact ⟨.punct '(', _, rfl, rfl⟩
  | neg e _ => exact ⟨.punct '!', _, rfl, rfl⟩
  | bin op l r ihl _ =>
    obtain ⟨x, xs, h, hx⟩ := ihl
    exact ⟨x, _, by simp only [renderToks, h, List.cons_append]; rfl, hx⟩
  | method op recv arg ihr _ =>
    obtain ⟨x, xs, h, hx⟩ := ihr
    exact ⟨x, _, by simp only [renderToks, h, List.cons_append]; rfl, hx⟩
  | length recv ihr =>
    obtain ⟨x, xs, h, hx⟩ := ihr
    exact ⟨x, _, by simp only [renderToks, h, List.cons_append]; rfl, hx⟩

theorem exprStart_not_ident {x : Tok} (h : exprStart x = true) (n : String) : x ≠ .ident n := by
  intro hx; subst hx; simp [exprStart, termStart] at h

theorem joinWith_cons_cons (sep : Tok) (x y : List Tok) (ys : List (List Tok)) :
    joinWith sep (x :: y :: ys) = x ++ sep :: joinWith sep (y :: ys) := rfl

theorem joinWith_single (sep : Tok) (x : List Tok) : joinWith sep [x] = x := rfl

/-- The printer's own joiner for the elements of a set is `joinWith` with a comma. -/
theorem joinToks_eq_joinWith (xs : List (List Tok)) :
    renderTermToks.joinToks xs = joinWith (.punct ',') xs := by
  induction xs with
  | nil => rfl
  | cons x ys ih =>
    cases ys with
    | nil => rfl
    | cons y ys => simp only [renderTermToks.joinToks, joinWith, ih, List.append_assoc, List.singleton_append]

theorem length_joinWith_cons_cons (sep : Tok) (x y : List Tok) (ys : List (List Tok)) :
    (joinWith sep (x :: y :: ys)).length = x.length + 1 + (joinWith sep (y :: ys)).length := by
  simp [joinWith]; omega

/-! `parseTermList`, `parseElems` and `parseQueries` are one parser, `x (sep x)*`, over three element
parsers; `joinWith sep` is its rendering.  (`parseAtomList` of `Proofs/Grammar` is the same parser
once more, but its elements need no fuel and the printer joins them itself: `joinToks_eq_joinWith`.) -/

/-- `ps` parses `x (sep x)*` with the element parser `p`: the two ways its one step goes on. -/
structure SepBy {α : Type} (sep : Tok) (p : Nat → P α) (ps : Nat → P (List α)) : Prop where
  last : ∀ {f toks x rest}, p f toks = some (x, rest) → (∀ r, rest = sep :: r → False) →
    ps (f + 1) toks = some ([x], rest)
  more : ∀ {f toks x rest xs rest'}, p f toks = some (x, sep :: rest) →
    ps f rest = some (xs, rest') → ps (f + 1) toks = some (x :: xs, rest')

/-- Such a parser reads the separated rendering of a non-empty list if the element parser reads
every element in front of a separator and the last one in front of `rest`.  Fuel: the element
parser's need is `c` per token plus `d`; the list parser needs one more. -/
theorem SepBy.reads {α : Type} {sep : Tok} {p : Nat → P α} {ps : Nat → P (List α)}
    (h : SepBy sep p ps) (render : α → List Tok) (c d : Nat) (hc : 1 ≤ c)
    (rest : List Tok) (hsep : ∀ r, rest = sep :: r → False) (xs : List α) (hne : xs ≠ [])
    (hmid : ∀ x ∈ xs, ∀ r g, g ≥ c * (render x).length + d →
      p g (render x ++ sep :: r) = some (x, sep :: r))
    (hlast : ∀ x, xs.getLast? = some x → ∀ g, g ≥ c * (render x).length + d →
      p g (render x ++ rest) = some (x, rest))
    (f : Nat) (hf : f ≥ c * (joinWith sep (xs.map render)).length + d + 1) :
    ps f (joinWith sep (xs.map render) ++ rest) = some (xs, rest) := by
  induction xs generalizing f with
  | nil => exact absurd rfl hne
  | cons x xs ih =>
    obtain ⟨g, rfl⟩ : ∃ g, f = g + 1 := ⟨f - 1, by omega⟩
    cases xs with
    | nil => exact h.last (hlast x rfl g (by simpa [joinWith_single] using hf)) hsep
    | cons y ys =>
      rw [List.map_cons, List.map_cons, length_joinWith_cons_cons, ← List.map_cons,
        Nat.mul_add, Nat.mul_add, Nat.mul_one] at hf
      rw [List.map_cons, List.map_cons, joinWith_cons_cons, ← List.map_cons, List.append_assoc,
        List.cons_append]
      exact h.more (hmid x (by simp) _ g (by omega))
        (ih (by simp) (fun z hz => hmid z (by simp [hz])) (fun z hz => hlast z (by simpa using hz))
          g (by omega))

def TermsOK (ts : List PTerm) : Prop := ∀ t ∈ ts, TermOK t

theorem sepBy_terms : SepBy (.punct ',') parseTerm parseTermList where
  last hp hr := by
    rw [parseTermList.eq_2, hp]
    split
    · next heq => cases heq
    · next heq => cases heq; exact absurd rfl (hr _)
    · next heq => cases heq; rfl
  more hp hps := by rw [parseTermList.eq_2, hp]; simp only [hps]

theorem parseTermList_render (ts : List PTerm) (hne : ts ≠ []) (hok : TermsOK ts)
    (rest : List Tok) (hr : commaStop rest) (f : Nat) (hf : f ≥ (renderTerms ts).length + 1) :
    parseTermList f (renderTerms ts ++ rest) = some (ts, rest) := by
  have hp : ∀ t ∈ ts, ∀ r g, g ≥ 1 * (renderTermToks t).length + 0 →
      parseTerm g (renderTermToks t ++ r) = some (t, r) := fun t ht r g hg =>
    parseTerm_render (hok t ht) r g (by
      have : esize (.term t) ≤ (renderTermToks t).length := esize_le_length (.term t) (hok t ht)
      omega)
  exact sepBy_terms.reads renderTermToks 1 0 (by omega) rest hr ts hne (fun t ht r => hp t ht _)
    (fun t ht => hp t (List.mem_of_getLast? ht) rest) f (by simpa [renderTerms] using hf)

def PredOK (p : PPred) : Prop := TermsOK p.terms

theorem parseTermList_rparen (f : Nat) (r : List Tok) : parseTermList f (.punct ')' :: r) = none :=
  match f with
  | 0 | _ + 1 => rfl

/-- Fuel: the number of its tokens (any fuel, also 0, for the zero-argument form). -/
theorem parsePred_render (p : PPred) (h : PredOK p) (rest : List Tok) (f : Nat)
    (hf : f ≥ (renderPred p).length) :
    parsePred f (renderPred p ++ rest) = some (p, rest) := by
  obtain ⟨n, ts⟩ := p
  cases ts with
  | nil => exact parsePred.eq_1 f n rest
  | cons t ts =>
    have hsplit : renderPred ⟨n, t :: ts⟩ ++ rest =
        .ident n :: .punct '(' :: (renderTerms (t :: ts) ++ (.punct ')' :: rest)) := by
      simp [renderPred]
    have hlen : (renderPred ⟨n, t :: ts⟩).length = (renderTerms (t :: ts)).length + 3 := by
      simp [renderPred]
    have hp := parseTermList_render (t :: ts) (by simp) h (.punct ')' :: rest)
      (by intro r hr; simp at hr) f (by omega)
    rw [hsplit, parsePred.eq_2, hp]
    · rfl
    · -- what `parseTermList` reads does not start with `)`
      intro r hr
      rw [hr, parseTermList_rparen] at hp
      cases hp

theorem parsePred_render_nullary (n : String) (rest : List Tok) (f : Nat) :
    parsePred f (renderPred ⟨n, []⟩ ++ rest) = some (⟨n, []⟩, rest) := parsePred.eq_1 f n rest

def ElemOK : PElem → Prop
  | .pred p => PredOK p
  | .expr e => WFx e

/-- What may follow an element: nothing is required after a predicate (it ends with `)`),
after an expression no token that continues an expression. -/
def elemFollow : PElem → List Tok → Prop
  | .pred _, _ => True
  | .expr _, rest => Follow 0 rest

/-- The parser decides "predicate or expression" on the first two tokens: identifier, `(`. -/
def startsLikePred : List Tok → Bool
  | .ident _ :: .punct '(' :: _ => true
  | _ => false

/-- No rendered expression is mistaken for a predicate: no side condition is needed. -/
theorem startsLikePred_renderToks (e : PExpr) (rest : List Tok) :
    startsLikePred (renderToks e ++ rest) = false := by
  obtain ⟨x, xs, hx, hs⟩ := renderToks_head e
  rw [hx]
  cases x <;> first | rfl | exact absurd rfl (exprStart_not_ident hs _)

theorem parseElem_renderPred (f : Nat) (p : PPred) (rest : List Tok) :
    parseElem f (renderPred p ++ rest) =
      (parsePred f (renderPred p ++ rest)).map fun r => (.pred r.1, r.2) :=
  parseElem.eq_1 f p.name _

theorem parseElem_render (e : PElem) (h : ElemOK e) (rest : List Tok) (hF : elemFollow e rest)
    (f : Nat) (hf : f ≥ 16 * (renderElem e).length + 15) :
    parseElem f (renderElem e ++ rest) = some (e, rest) := by
  cases e with
  | pred p =>
    show parseElem f (renderPred p ++ rest) = _
    rw [parseElem_renderPred, parsePred_render p h rest f (by simp only [renderElem] at hf; omega)]; rfl
  | expr e =>
    show parseElem f (renderToks e ++ rest) = _
    rw [parseElem.eq_2, parseOr_render e h rest hF f hf]; rfl
    intro n r hx
    have := startsLikePred_renderToks e rest
    rw [hx] at this
    exact absurd this (by simp [startsLikePred])

def BodyOK (body : List PElem) : Prop := body ≠ [] ∧ ∀ e ∈ body, ElemOK e

def bodyFollow (body : List PElem) (rest : List Tok) : Prop :=
  ∀ e, body.getLast? = some e → elemFollow e rest

theorem elemFollow_of_Follow {e : PElem} {rest : List Tok} (h : Follow 0 rest) : elemFollow e rest := by
  cases e <;> first | trivial | exact h

theorem sepBy_elems : SepBy (.punct ',') parseElem parseElems where
  last hp hr := by
    rw [parseElems.eq_2, hp]
    split
    · next heq => cases heq
    · next heq => cases heq; exact absurd rfl (hr _)
    · next heq => cases heq; rfl
  more hp hps := by rw [parseElems.eq_2, hp]; simp only [hps]

theorem parseElems_render (body : List PElem) (h : BodyOK body) (rest : List Tok)
    (hc : commaStop rest) (hF : bodyFollow body rest) (f : Nat)
    (hf : f ≥ 16 * (renderBody body).length + 16) :
    parseElems f (renderBody body ++ rest) = some (body, rest) :=
  sepBy_elems.reads renderElem 16 15 (by omega) rest hc body h.1
    (fun e he r => parseElem_render e (h.2 e he) _ (elemFollow_of_Follow (Follow.cons (by decide) r)))
    (fun e he => parseElem_render e (h.2 e (List.mem_of_getLast? he)) rest (hF e he)) f hf

def orIdentStop (rest : List Tok) : Prop := ∀ r, rest = .ident "or" :: r → False

def QueriesOK (qs : List (List PElem)) : Prop := qs ≠ [] ∧ ∀ q ∈ qs, BodyOK q

def queriesFollow (qs : List (List PElem)) (rest : List Tok) : Prop :=
  ∀ q, qs.getLast? = some q → bodyFollow q rest

theorem sepBy_queries : SepBy (.ident "or") parseElems parseQueries where
  last hp hr := by
    rw [parseQueries.eq_2, hp]
    split
    · next heq => cases heq
    · next heq => cases heq; exact absurd rfl (hr _)
    · next heq => cases heq; rfl
  more hp hps := by rw [parseQueries.eq_2, hp]; simp only [hps]

theorem parseQueries_render (qs : List (List PElem)) (h : QueriesOK qs) (rest : List Tok)
    (hc : commaStop rest) (ho : orIdentStop rest) (hF : queriesFollow qs rest) (f : Nat)
    (hf : f ≥ 16 * (renderQueries qs).length + 17) :
    parseQueries f (renderQueries qs ++ rest) = some (qs, rest) :=
  sepBy_queries.reads renderBody 16 16 (by omega) rest ho qs h.1
    (fun q hq r => parseElems_render q (h.2 q hq) _ (by intro r hr; simp at hr)
      (fun e _ => elemFollow_of_Follow (Follow.cons (by decide) r)))
    (fun q hq => parseElems_render q (h.2 q (List.mem_of_getLast? hq)) rest hc (hF q hq)) f hf

def arrowStop (rest : List Tok) : Prop := ∀ r, rest = .arrow :: r → False

def ItemOK : PItem → Prop
  | .fact p => PredOK p
  | .rule r => PredOK r.head ∧ BodyOK r.body
  | .check c => QueriesOK c.queries
  | .policy p => QueriesOK p.queries

/-- What may follow an item, exactly as far as the parser looks: after a fact no `<-`; after
a rule no `,` and nothing that continues its last element; after a check or policy also no `or`. -/
def itemFollow : PItem → List Tok → Prop
  | .fact _, rest => arrowStop rest
  | .rule r, rest => commaStop rest ∧ bodyFollow r.body rest
  | .check c, rest => commaStop rest ∧ orIdentStop rest ∧ queriesFollow c.queries rest
  | .policy p, rest => commaStop rest ∧ orIdentStop rest ∧ queriesFollow p.queries rest

def isPolicy : PItem → Bool
  | .policy _ => true
  | _ => false

theorem parseItem_renderPred (f : Nat) (pol : Bool) (p : PPred) (rest : List Tok) :
    parseItem f pol (renderPred p ++ rest) =
      match parsePred f (renderPred p ++ rest) with
      | none => none
      | some (h, .arrow :: rest) =>
        (parseElems f rest).map fun r => (.rule { head := h, body := r.1 }, r.2)
      | some (h, rest) => some (.fact h, rest) :=
  parseItem.eq_4 f pol _ (by intro r h; cases h) (by intro r h; cases h) (by intro r h; cases h)

theorem parseItem_render (it : PItem) (h : ItemOK it) (pol : Bool)
    (hp : isPolicy it = false ∨ pol = true) (rest : List Tok) (hF : itemFollow it rest)
    (f : Nat) (hf : f ≥ 16 * (renderItem it).length + 16) :
    parseItem f pol (renderItem it ++ rest) = some (it, rest) := by
  cases it with
  | fact p =>
    show parseItem f pol (renderPred p ++ rest) = _
    rw [parseItem_renderPred, parsePred_render p h rest f (by simp only [renderItem] at hf; omega)]
    split
    · next heq => cases heq
    · next heq => cases heq; exact absurd rfl (hF _)
    · next heq => cases heq; rfl
  | rule r =>
    obtain ⟨hd, body⟩ := r
    obtain ⟨hh, hb⟩ := h
    have hlen : (renderItem (.rule ⟨hd, body⟩)).length =
        (renderPred hd).length + 1 + (renderBody body).length := by
      simp [renderItem, renderRule]; omega
    have hpp := parsePred_render hd hh (.arrow :: (renderBody body ++ rest)) f (by omega)
    have hee := parseElems_render body hb rest hF.1 hF.2 f (by omega)
    show parseItem f pol ((renderPred hd ++ .arrow :: renderBody body) ++ rest) = _
    rw [List.append_assoc, List.cons_append, parseItem_renderPred, hpp]
    simp only [hee, Option.map]
  | check c =>
    obtain ⟨qs⟩ := c
    show parseItem f pol (.keyword "check if" :: (renderQueries qs ++ rest)) = _
    rw [parseItem.eq_1, parseQueries_render qs h rest hF.1 hF.2.1 hF.2.2 f (by
      simp only [renderItem, renderCheck, List.length_cons] at hf; omega)]
    rfl
  | policy p =>
    obtain ⟨allow, qs⟩ := p
    obtain rfl : pol = true := hp.resolve_left (by simp [isPolicy])
    have hq := parseQueries_render qs h rest hF.1 hF.2.1 hF.2.2 f (by
      simp only [renderItem, renderPolicy, List.length_cons] at hf; omega)
    cases allow with
    | true =>
      show parseItem f true (.keyword "allow if" :: (renderQueries qs ++ rest)) = _
      rw [parseItem.eq_2, hq]; rfl
    | false =>
      show parseItem f true (.keyword "deny if" :: (renderQueries qs ++ rest)) = _
      rw [parseItem.eq_3, hq]; rfl

/-- The block grammar has no policies: with `allowPolicy = false` a policy is rejected
whatever follows the keyword (no well-formedness needed). -/
theorem parseItem_policy_rejected (p : PPolicy) (rest : List Tok) (f : Nat) :
    parseItem f false (renderItem (.policy p) ++ rest) = none := by
  obtain ⟨allow, qs⟩ := p
  cases allow with
  | true =>
    show parseItem f false (.keyword "allow if" :: (renderQueries qs ++ rest)) = _
    rw [parseItem.eq_2]; rfl
  | false =>
    show parseItem f false (.keyword "deny if" :: (renderQueries qs ++ rest)) = _
    rw [parseItem.eq_3]; rfl

/-- What follows an item inside `renderItems` (a `;`) satisfies every follow condition. -/
theorem itemFollow_semicolon (it : PItem) (r : List Tok) : itemFollow it (.punct ';' :: r) := by
  have hc : commaStop (.punct ';' :: r) := by intro r' h; simp at h
  have ho : orIdentStop (.punct ';' :: r) := by intro r' h; cases h
  have hb : ∀ b, bodyFollow b (.punct ';' :: r) :=
    fun b e _ => elemFollow_of_Follow (Follow.cons (by decide) r)
  cases it with
  | fact p => intro r' h; cases h
  | rule rl => exact ⟨hc, hb _⟩
  | check c => exact ⟨hc, ho, fun q _ => hb q⟩
  | policy p => exact ⟨hc, ho, fun q _ => hb q⟩

theorem renderItems_append (a b : List PItem) : renderItems (a ++ b) = renderItems a ++ renderItems b := by
  induction a with
  | nil => rfl
  | cons it a ih => simp [renderItems, ih]

theorem parseItems_render_append (its : List PItem) (h : ∀ it ∈ its, ItemOK it) (pol : Bool)
    (hp : ∀ it ∈ its, isPolicy it = false ∨ pol = true) (tail : List Tok) (f : Nat)
    (hf : f ≥ 16 * (renderItems its).length + 16) :
    parseItems f pol (renderItems its ++ tail) =
      (parseItems (f - its.length) pol tail).map (its ++ ·) := by
  induction its generalizing f with
  | nil => simp [renderItems]
  | cons it its ih =>
    have hlen : (renderItems (it :: its)).length = (renderItem it).length + 1 + (renderItems its).length := by
      simp [renderItems]; omega
    obtain ⟨g, rfl⟩ : ∃ g, f = g + 1 := ⟨f - 1, by omega⟩
    show parseItems (g + 1) pol (renderItem it ++ .punct ';' :: renderItems its ++ tail) = _
    rw [List.append_assoc, List.cons_append, parseItems.eq_3,
      parseItem_render it (h it (by simp)) pol (hp it (by simp)) _ (itemFollow_semicolon it _) g (by omega)]
    · show Option.map _ (parseItems g pol (renderItems its ++ tail)) = _
      rw [ih (fun x hx => h x (by simp [hx])) (fun x hx => hp x (by simp [hx])) g (by omega),
        Option.map_map, List.length_cons, Nat.add_sub_add_right]
      rfl
    · intro hx; simp at hx

theorem parseItems_render (its : List PItem) (h : ∀ it ∈ its, ItemOK it) (pol : Bool)
    (hp : ∀ it ∈ its, isPolicy it = false ∨ pol = true) (f : Nat)
    (hf : f ≥ 16 * (renderItems its).length + 16) :
    parseItems f pol (renderItems its) = some its := by
  have := parseItems_render_append its h pol hp [] f hf
  rwa [List.append_nil, parseItems.eq_1, Option.map_some, List.append_nil] at this

theorem parseItems_policy_head (p : PPolicy) (post : List PItem) (f : Nat) :
    parseItems f false (renderItems (.policy p :: post)) = none := by
  cases f with
  | zero =>
    obtain ⟨allow, qs⟩ := p
    exact parseItems.eq_2 _ _ _
  | succ g =>
    show parseItems (g + 1) false (renderItem (.policy p) ++ .punct ';' :: renderItems post) = _
    rw [parseItems.eq_3, parseItem_policy_rejected]
    intro hx
    obtain ⟨allow, qs⟩ := p
    simp [renderItem, renderPolicy] at hx

theorem parseItems_policy_rejected (pre : List PItem) (p : PPolicy) (post : List PItem)
    (h : ∀ it ∈ pre, ItemOK it) (hp : ∀ it ∈ pre, isPolicy it = false) (f : Nat)
    (hf : f ≥ 16 * (renderItems pre).length + 16) :
    parseItems f false (renderItems (pre ++ .policy p :: post)) = none := by
  rw [renderItems_append, parseItems_render_append pre h false (fun it hit => Or.inl (hp it hit)) _ f hf,
    parseItems_policy_head]
  rfl

/-- `parseElems` needs at least one element: nothing parses at `;`. -/
theorem parseElems_semicolon (f : Nat) (r : List Tok) : parseElems f (.punct ';' :: r) = none := by
  -- the levels hand `;` down unchanged to `parseAtomTerm`, which rejects it — or the fuel runs out
  -- on the way: one more step of evaluation per unit of fuel, nine in all
  match f with
  | 0 => rfl
  | 1 => rfl
  | 2 => rfl
  | 3 => rfl
  | 4 => rfl
  | 5 => rfl
  | 6 => rfl
  | 7 => rfl
  | 8 => rfl
  | g + 9 => rfl

end Biscuit.Grammar
