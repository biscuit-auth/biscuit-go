/-
Proofs/LexRules — `lexOne` as the ordered alternation of the 19 lexer rules, over character lists.

`Model/Grammar.lexOne` is a nest of conditionals that commits early (an unterminated `"`, a `$`
without a name, a `{` without `name}` go straight to Punct).  Here the lexer is written as
parser/parser.go writes it (`BiscuitLexerRules`): a list of rules (`lexRules`), each a partial
function on the remaining input, and the first rule that matches wins (`lexOneC`, `lexOne_eq`).

* `identOK_cons`: `C14Lexer.identOK` says that the rules before Ident fail, in the terms of this file.
* inversion (`lexOne_inv`): the rule that fired says what the payload of its token is (`TokInv`,
  `rule_out`, one small case per rule), and every rule before it in the list failed.
* which rules can fire at a digit, at a lower-case letter, at any other character (`lexOne_digit`,
  `lexOne_lower`, `lexOne_sym`): the per-token lemmas of `Proofs/LexerLayout` start from these.
* `lexC`, `lex_eq`, `lex_lit`, `parseBlockText_eqC`, `parseSingleText_eqC`: the same lexer for evaluation by the kernel.  The
  literals of the rules are character lists here: the kernel decodes a `String` literal
  (`"check if".toList`) through the UTF-8 byte array, at every use, which costs far more than the
  lexing itself.
-/
import BiscuitModel.Proofs.Lexer

namespace Biscuit.Grammar

def firstLitC : List (List Char) → List Char → Option (List Char × List Char)
  | [], _ => none
  | l :: rest, cs => match stripLit l cs with
    | some r => some (l, r)
    | none => firstLitC rest cs

def firstWordC : List (List Char) → List Char → Option (List Char × List Char)
  | [], _ => none
  | l :: rest, cs => match stripLit l cs with
    | some r => if atWordEnd r then some (l, r) else firstWordC rest cs
    | none => firstWordC rest cs

theorem firstLit_map (lits : List (List Char)) (cs : List Char) :
    firstLit (lits.map String.ofList) cs = (firstLitC lits cs).map fun p => (String.ofList p.1, p.2) := by
  induction lits with
  | nil => rfl
  | cons l lits ih =>
    simp only [List.map_cons, firstLit, firstLitC, String.toList_ofList]
    cases stripLit l cs with
    | none => exact ih
    | some r => rfl

theorem firstWord_map (lits : List (List Char)) (cs : List Char) :
    firstWord (lits.map String.ofList) cs = (firstWordC lits cs).map fun p => (String.ofList p.1, p.2) := by
  induction lits with
  | nil => rfl
  | cons l lits ih =>
    simp only [List.map_cons, firstWord, firstWordC, String.toList_ofList]
    cases stripLit l cs with
    | none => exact ih
    | some r =>
      simp only [ih]
      split <;> rfl

theorem firstLitC_mem {lits : List (List Char)} {cs : List Char} {p : List Char × List Char}
    (h : firstLitC lits cs = some p) : p.1 ∈ lits := by
  induction lits with
  | nil => cases h
  | cons a lits ih =>
    unfold firstLitC at h
    split at h
    · cases h; exact List.mem_cons_self ..
    · exact List.mem_cons_of_mem _ (ih h)

theorem firstWordC_mem {lits : List (List Char)} {cs : List Char} {p : List Char × List Char}
    (h : firstWordC lits cs = some p) : p.1 ∈ lits := by
  induction lits with
  | nil => cases h
  | cons a lits ih =>
    unfold firstWordC at h
    split at h
    · split at h
      · cases h; exact List.mem_cons_self ..
      · exact List.mem_cons_of_mem _ (ih h)
    · exact List.mem_cons_of_mem _ (ih h)

def kwC : List (List Char) :=
  [['c','h','e','c','k',' ','i','f'], ['a','l','l','o','w',' ','i','f'], ['d','e','n','y',' ','i','f']]
def fnC : List (List Char) :=
  [['p','r','e','f','i','x'], ['s','u','f','f','i','x'], ['m','a','t','c','h','e','s'],
   ['l','e','n','g','t','h'], ['c','o','n','t','a','i','n','s']]
def opC : List (List Char) := [['=','='], ['>','='], ['<','='], ['>'], ['<'], ['+'], ['-'], ['*']]
def boolC : List (List Char) := [['t','r','u','e'], ['f','a','l','s','e']]
def punctC : List Char :=
  ['-','[','!','@','%','^','&','#','$','*','(',')','+','_','=','{','}','|',':',';','"','\'','<',',','>','.',
   '?','/',']']

/-! A string literal IS `String.ofList` of its characters, for the kernel and for `rfl`. -/

theorem keywordLits_eq : keywordLits = kwC.map String.ofList := rfl
theorem funcLits_eq : funcLits = fnC.map String.ofList := rfl
theorem opLits_eq : opLits = opC.map String.ofList := rfl
theorem boolLits_eq : boolLits = boolC.map String.ofList := rfl
theorem punctChars_eq : punctChars = punctC := String.toList_ofList
theorem hexLit_eq : "hex:".toList = ['h','e','x',':'] := String.toList_ofList
theorem arrowLit_eq : "<-".toList = ['<','-'] := String.toList_ofList
theorem orLit_eq : "||".toList = ['|','|'] := String.toList_ofList
theorem andLit_eq : "&&".toList = ['&','&'] := String.toList_ofList
theorem commentLit_eq : "//".toList = ['/','/'] := String.toList_ofList

theorem identOK_cons (c : Char) (r : List Char) :
    C14Lexer.identOK (c :: r) = true ↔ isLower c = true ∧ r.all isNameChar = true ∧ c :: r ∉ keywordHeads ∧
      firstWordC fnC (c :: r) = none ∧ stripLit ['h','e','x',':'] (c :: r) = none ∧
      firstWordC boolC (c :: r) = none := by
  simp only [C14Lexer.identOK, funcLits_eq, boolLits_eq, hexLit_eq, firstWord_map, Option.isNone_map,
    Bool.and_eq_true, Bool.not_eq_true', Option.isNone_iff_eq_none, List.contains_eq_mem, decide_eq_false_iff_not,
    and_assoc]

abbrev LexRule := List Char → Option (Option Tok × List Char)

/-- `a|b|c`: the first literal that matches. -/
def litRule (mk : String → Tok) (lits : List (List Char)) : LexRule := fun cs =>
  (firstLitC lits cs).map fun p => (some (mk (String.ofList p.1)), p.2)
/-- `(a|b|c)\b`. -/
def wordRule (mk : String → Tok) (lits : List (List Char)) : LexRule := fun cs =>
  (firstWordC lits cs).map fun p => (some (mk (String.ofList p.1)), p.2)
def symRule (t : Tok) (l : List Char) : LexRule := fun cs => (stripLit l cs).map fun r => (some t, r)
def hexRule : LexRule := fun cs =>
  (stripLit ['h','e','x',':'] cs).map fun r => (some (.hex (hexPairs r).1), (hexPairs r).2)
def commentRule : LexRule := fun cs =>
  (stripLit ['/','/'] cs).map fun r => (some .comment, (spanWhile (· != '\n') r).2)
def headRule (g : Char → Bool) (f : Char → LexRule) : LexRule
  | c :: rest => if g c then f c rest else none
  | [] => none
def strRule : LexRule := headRule (· == '"') fun _ rest =>
  match (spanWhile (· != '"') rest).2 with
  | '"' :: r => some (some (.str (spanWhile (· != '"') rest).1), r)
  | _ => none
def varRule : LexRule := headRule (· == '$') fun _ rest =>
  if (spanWhile isNameChar rest).1.isEmpty then none
  else some (some (.var (String.ofList (spanWhile isNameChar rest).1)), (spanWhile isNameChar rest).2)
def paramRule : LexRule := headRule (· == '{') fun _ rest =>
  match (spanWhile isNameChar rest).1.isEmpty, (spanWhile isNameChar rest).2 with
  | false, '}' :: r => some (some (.param (String.ofList (spanWhile isNameChar rest).1)), r)
  | _, _ => none
def dateRule : LexRule := fun cs => (lexDate cs).map fun p => (some (.date p.1), p.2)
def intRule : LexRule := headRule isDigit fun c rest =>
  some (some (.int (spanWhile isDigit (c :: rest)).1), (spanWhile isDigit (c :: rest)).2)
def identRule : LexRule := headRule isLower fun c rest =>
  some (some (.ident (String.ofList (c :: (spanWhile isNameChar rest).1))), (spanWhile isNameChar rest).2)
def blankRule (p : Char → Bool) : LexRule := headRule p fun c rest => some (none, (spanWhile p (c :: rest)).2)
def punctRule : LexRule := headRule punctC.contains fun c rest => some (some (.punct c), rest)

theorem headRule_eq_some {g : Char → Bool} {f : Char → LexRule} {cs : List Char} {x : Option Tok × List Char} :
    headRule g f cs = some x ↔ ∃ c rest, cs = c :: rest ∧ g c = true ∧ f c rest = some x := by
  constructor
  · intro h
    cases cs with
    | nil => cases h
    | cons c rest =>
      cases hg : g c with
      | false => simp [headRule, hg] at h
      | true => exact ⟨c, rest, rfl, hg, by simpa [headRule, hg] using h⟩
  · rintro ⟨c, rest, rfl, hg, h⟩
    simp [headRule, hg, h]

theorem headRule_none {g : Char → Bool} {f : Char → LexRule} {c : Char} (rest : List Char) (h : g c = false) :
    headRule g f (c :: rest) = none := by
  simp only [headRule, h, Bool.false_eq_true, if_false]

theorem firstLitC_none_of_head (p : Char → Bool) (lits : List (List Char)) (c : Char) (cs : List Char)
    (hl : ∀ l ∈ lits, l.head?.map p = some true) (hc : p c = false) : firstLitC lits (c :: cs) = none := by
  induction lits with
  | nil => rfl
  | cons l lits ih =>
    simp only [firstLitC, stripLit_none_of_head p _ c cs (hl l (List.mem_cons_self ..)) hc]
    exact ih (fun l' h' => hl l' (List.mem_cons_of_mem _ h'))

theorem firstWordC_none_of_head (p : Char → Bool) (lits : List (List Char)) (c : Char) (cs : List Char)
    (hl : ∀ l ∈ lits, l.head?.map p = some true) (hc : p c = false) : firstWordC lits (c :: cs) = none := by
  induction lits with
  | nil => rfl
  | cons l lits ih =>
    simp only [firstWordC, stripLit_none_of_head p _ c cs (hl l (List.mem_cons_self ..)) hc]
    exact ih (fun l' h' => hl l' (List.mem_cons_of_mem _ h'))

theorem lower_rules_none (c : Char) (rest : List Char) (h : isLower c = false) :
    litRule .keyword kwC (c :: rest) = none ∧ wordRule .func fnC (c :: rest) = none ∧
    hexRule (c :: rest) = none ∧ wordRule (fun b => .bool (b == "true")) boolC (c :: rest) = none ∧
    identRule (c :: rest) = none := by
  refine ⟨?_, ?_, ?_, ?_, ?_⟩
  · simp only [litRule, firstLitC_none_of_head isLower kwC c rest (by decide) h, Option.map_none]
  · simp only [wordRule, firstWordC_none_of_head isLower fnC c rest (by decide) h, Option.map_none]
  · simp only [hexRule, stripLit_none_of_head isLower ['h','e','x',':'] c rest (by decide) h, Option.map_none]
  · simp only [wordRule, firstWordC_none_of_head isLower boolC c rest (by decide) h, Option.map_none]
  · exact headRule_none rest h

theorem digit_rules_none (c : Char) (rest : List Char) (h : isDigit c = false) :
    dateRule (c :: rest) = none ∧ intRule (c :: rest) = none :=
  ⟨by simp only [dateRule, lexDate_nondigit c rest h, Option.map_none],
   headRule_none rest h⟩

/-- `p`: a class of characters that contains no punctuation (`isLower`, `isDigit`, the blanks): every
rule whose texts start with a punctuation character fails at a character of the class. -/
theorem punct_rules_none (p : Char → Bool) (hp : ∀ d ∈ punctC, p d = false)
    (c : Char) (rest : List Char) (h : p c = true) :
    symRule .dot ['.'] (c :: rest) = none ∧ symRule .arrow ['<','-'] (c :: rest) = none ∧
    symRule .orOp ['|','|'] (c :: rest) = none ∧ symRule .andOp ['&','&'] (c :: rest) = none ∧
    litRule .op opC (c :: rest) = none ∧ commentRule (c :: rest) = none ∧ strRule (c :: rest) = none ∧
    varRule (c :: rest) = none ∧ paramRule (c :: rest) = none ∧ punctRule (c :: rest) = none := by
  have hq : (fun x => !p x) c = false := by simp [h]
  have ne : ∀ d ∈ punctC, (c == d) = false := fun d hd => by simpa using ne_of_pred h (hp d hd)
  have hd : ∀ d ∈ punctC, (!p d) = true := fun d hd => by simp [hp d hd]
  have S : ∀ l : List Char, l.head?.map (fun x => !p x) = some true → stripLit l (c :: rest) = none :=
    fun l hl => stripLit_none_of_head _ l c rest hl hq
  have O : ∀ l ∈ opC, ∃ d ∈ punctC, l.head? = some d := by decide
  refine ⟨?_, ?_, ?_, ?_, ?_, ?_, ?_, ?_, ?_, ?_⟩
  · simp only [symRule, S ['.'] (by simp [hd '.' (by decide)]), Option.map_none]
  · simp only [symRule, S ['<','-'] (by simp [hd '<' (by decide)]), Option.map_none]
  · simp only [symRule, S ['|','|'] (by simp [hd '|' (by decide)]), Option.map_none]
  · simp only [symRule, S ['&','&'] (by simp [hd '&' (by decide)]), Option.map_none]
  · simp only [litRule, firstLitC_none_of_head (fun x => !p x) opC c rest (fun l hl => by
      obtain ⟨d, hd', e⟩ := O l hl
      simp [e, hp d hd']) hq, Option.map_none]
  · simp only [commentRule, S ['/','/'] (by simp [hd '/' (by decide)]), Option.map_none]
  · exact headRule_none rest (ne '"' (by decide))
  · exact headRule_none rest (ne '$' (by decide))
  · exact headRule_none rest (ne '{' (by decide))
  · have : punctC.contains c = false := by
      simp only [List.contains_eq_mem, decide_eq_false_iff_not]
      intro hc
      have := ne c hc
      simp at this
    exact headRule_none rest this

/-- A class without punctuation and without blanks (`isLower`, `isDigit`): the two blank rules fail as well. -/
theorem sym_rules_none (p : Char → Bool) (hp : ∀ d ∈ punctC ++ [' ', '\t', '\n', '\r'], p d = false)
    (c : Char) (rest : List Char) (h : p c = true) :
    symRule .dot ['.'] (c :: rest) = none ∧ symRule .arrow ['<','-'] (c :: rest) = none ∧
    symRule .orOp ['|','|'] (c :: rest) = none ∧ symRule .andOp ['&','&'] (c :: rest) = none ∧
    litRule .op opC (c :: rest) = none ∧ commentRule (c :: rest) = none ∧ strRule (c :: rest) = none ∧
    varRule (c :: rest) = none ∧ paramRule (c :: rest) = none ∧
    blankRule (fun x => x == ' ' || x == '\t') (c :: rest) = none ∧
    blankRule (fun x => x == '\n' || x == '\r') (c :: rest) = none ∧ punctRule (c :: rest) = none := by
  obtain ⟨b1, b2, b3, b4, b5, b6, b7, b8, b9, b10⟩ :=
    punct_rules_none p (fun d hd => hp d (List.mem_append_left _ hd)) c rest h
  have ne : ∀ d ∈ [' ', '\t', '\n', '\r'], (c == d) = false := fun d hd => by
    simpa using ne_of_pred h (hp d (List.mem_append_right _ hd))
  exact ⟨b1, b2, b3, b4, b5, b6, b7, b8, b9,
    headRule_none rest (by simp only [ne ' ' (by decide), ne '\t' (by decide), Bool.or_self]),
    headRule_none rest (by simp only [ne '\n' (by decide), ne '\r' (by decide), Bool.or_self]), b10⟩

/-- At a punctuation character the rules from DateTime on come down to Punct. -/
theorem late_rules_punct (c : Char) (rest : List Char) (h1 : isLower c = false) (h2 : isDigit c = false)
    (h3 : (c == ' ' || c == '\t') = false) (h4 : (c == '\n' || c == '\r') = false) (h5 : punctC.contains c = true) :
    [dateRule, intRule, wordRule (fun b => .bool (b == "true")) boolC, identRule,
      blankRule (fun x => x == ' ' || x == '\t'), blankRule (fun x => x == '\n' || x == '\r'),
      punctRule].findSome? (· (c :: rest)) = some (some (.punct c), rest) := by
  obtain ⟨-, -, -, a4, a5⟩ := lower_rules_none c rest h1
  obtain ⟨b1, b2⟩ := digit_rules_none c rest h2
  simp only [List.findSome?_cons, a4, a5, b1, b2, blankRule, punctRule, headRule, h3, h4, Bool.false_eq_true, if_false,
    h5, if_true]

/-- `BiscuitLexerRules` (parser/parser.go:18-38), in the order of the source: Keyword, Function, Hex, Dot,
Arrow, Or, And, Operator, Comment, String, Variable, Parameter, DateTime, Int, Bool, Ident,
Whitespace, EOL, Punct. -/
def lexRules : List LexRule :=
  [litRule .keyword kwC, wordRule .func fnC, hexRule, symRule .dot ['.'], symRule .arrow ['<','-'],
   symRule .orOp ['|','|'], symRule .andOp ['&','&'], litRule .op opC, commentRule, strRule, varRule,
   paramRule, dateRule, intRule, wordRule (fun b => .bool (b == "true")) boolC, identRule,
   blankRule (fun x => x == ' ' || x == '\t'), blankRule (fun x => x == '\n' || x == '\r'), punctRule]

def lexOneC (cs : List Char) : Option (Option Tok × List Char) := lexRules.findSome? (· cs)

theorem findSome?_cons_or {α β : Type} (f : α → Option β) (a : α) (l : List α) :
    (a :: l).findSome? f = (f a).or (l.findSome? f) := by
  rw [List.findSome?_cons]
  cases f a <;> rfl

theorem lexOne_eq (cs : List Char) : lexOne cs = lexOneC cs := by
  have hk : ["check if", "allow if", "deny if"] = kwC.map String.ofList := keywordLits_eq
  have hf : ["prefix", "suffix", "matches", "length", "contains"] = fnC.map String.ofList := funcLits_eq
  have ho : ["==", ">=", "<=", ">", "<", "+", "-", "*"] = opC.map String.ofList := opLits_eq
  have hb : ["true", "false"] = boolC.map String.ofList := boolLits_eq
  unfold lexOne lexOneC lexRules
  rw [hk, firstLit_map, hf, firstWord_map, hexLit_eq, arrowLit_eq, orLit_eq, andLit_eq, ho, firstLit_map,
    commentLit_eq, hb, firstWord_map, punctChars_eq]
  -- one rule at a time: unroll it, split on what the model splits on; where the rule fires, both sides compute
  -- to the same token
  -- Keyword
  rw [findSome?_cons_or, litRule]
  cases firstLitC kwC cs with
  | some p => rfl
  | none =>
  -- Function
  rw [findSome?_cons_or, wordRule]
  cases firstWordC fnC cs with
  | some p => rfl
  | none =>
  -- Hex
  rw [findSome?_cons_or, hexRule]
  cases stripLit ['h', 'e', 'x', ':'] cs with
  | some p => rfl
  | none =>
  cases cs with
  | nil => rfl
  | cons c rest =>
  -- `cases` leaves `match none with …`, `if false = true then …`, `(Option.map _ none).or _` in front of the two
  -- sides: `rw` works below them and `rfl` computes through them, so they are cleared only here (with
  -- `match c :: rest with`) and before String; a `simp only` over the whole nest at every rule is dear
  dsimp only [Option.map_none, Option.none_or]
  -- Dot
  rw [findSome?_cons_or, symRule]
  by_cases hdot : c = '.'
  · subst hdot; rfl
  have hdot' : stripLit ['.'] (c :: rest) = none := by simp [stripLit, Ne.symm hdot]
  have hdot'' : ¬(c == '.') = true := by simpa using hdot
  rw [hdot', if_neg hdot'']
  -- Arrow
  rw [findSome?_cons_or, symRule]
  cases stripLit ['<', '-'] (c :: rest) with
  | some p => rfl
  | none =>
  -- Or
  rw [findSome?_cons_or, symRule]
  cases stripLit ['|', '|'] (c :: rest) with
  | some p => rfl
  | none =>
  -- And
  rw [findSome?_cons_or, symRule]
  cases stripLit ['&', '&'] (c :: rest) with
  | some p => rfl
  | none =>
  -- Operator
  rw [findSome?_cons_or, litRule]
  cases firstLitC opC (c :: rest) with
  | some p => rfl
  | none =>
  -- Comment
  rw [findSome?_cons_or, commentRule]
  cases stripLit ['/', '/'] (c :: rest) with
  | some p => rfl
  | none =>
  dsimp only [Option.map_none, Option.none_or]
  -- String; at `"`, `$`, `{` the model commits to Punct when the rule fails: the rules in between fail too
  rw [findSome?_cons_or, strRule, headRule]
  by_cases h1 : (c == '"') = true
  · cases eq_of_beq h1
    rw [if_pos h1, if_pos h1, findSome?_cons_or, varRule, headRule, if_neg (show ¬('"' == '$') = true by decide),
      Option.none_or, findSome?_cons_or, paramRule, headRule, if_neg (show ¬('"' == '{') = true by decide),
      Option.none_or, late_rules_punct '"' rest rfl rfl rfl rfl rfl]
    generalize (spanWhile (fun x => x != '"') rest).snd = s2
    split
    · rfl
    next no =>
      split
      · exact (no _ rfl).elim
      · rfl
  rw [if_neg h1, if_neg h1, Option.none_or]
  -- Variable
  rw [findSome?_cons_or, varRule, headRule]
  by_cases h2 : (c == '$') = true
  · cases eq_of_beq h2
    rw [if_pos h2, if_pos h2, findSome?_cons_or, paramRule, headRule, if_neg (show ¬('$' == '{') = true by decide),
      Option.none_or, late_rules_punct '$' rest rfl rfl rfl rfl rfl]
    cases (spanWhile isNameChar rest).fst.isEmpty <;> rfl
  rw [if_neg h2, if_neg h2, Option.none_or]
  -- Parameter
  rw [findSome?_cons_or, paramRule, headRule]
  by_cases h3 : (c == '{') = true
  · cases eq_of_beq h3
    rw [if_pos h3, if_pos h3, late_rules_punct '{' rest rfl rfl rfl rfl rfl]
    generalize (spanWhile isNameChar rest).fst.isEmpty = b
    generalize (spanWhile isNameChar rest).snd = s2
    split
    · rfl
    next no =>
      split
      · exact (no _ rfl rfl).elim
      · rfl
  rw [if_neg h3, if_neg h3, Option.none_or]
  -- DateTime
  rw [findSome?_cons_or, dateRule]
  cases lexDate (c :: rest) with
  | some p => rfl
  | none =>
  -- Int
  rw [findSome?_cons_or, intRule, headRule]
  cases isDigit c with
  | true => rfl
  | false =>
  -- Bool
  rw [findSome?_cons_or, wordRule]
  cases firstWordC boolC (c :: rest) with
  | some p => rfl
  | none =>
  -- Ident
  rw [findSome?_cons_or, identRule, headRule]
  cases isLower c with
  | true => rfl
  | false =>
  -- Whitespace
  rw [findSome?_cons_or, blankRule, headRule]
  cases (c == ' ' || c == '\t') with
  | true => rfl
  | false =>
  -- EOL
  rw [findSome?_cons_or, blankRule, headRule]
  cases (c == '\n' || c == '\r') with
  | true => rfl
  | false =>
  -- Punct
  rw [findSome?_cons_or, punctRule, headRule]
  cases punctC.contains c <;> rfl

theorem findSome?_idx {α β : Type} {f : α → Option β} {l : List α} {b : β} (h : l.findSome? f = some b) :
    ∃ i, ∃ hi : i < l.length, f l[i] = some b ∧ ∀ x ∈ l.take i, f x = none := by
  obtain ⟨l₁, a, l₂, rfl, ha, hn⟩ := List.findSome?_eq_some_iff.1 h
  exact ⟨l₁.length, by simp, by simpa using ha, by simpa using hn⟩

/-- What `lexOne cs = some (some t, r)` says about the payload of `t`, by constructor.  For `.ident`
there is no clause about `check` / `allow` / `deny` (`keywordHeads`): such a name IS read as an
identifier unless ` if` follows, so `identOK` excludes it because of what may come after
(`C14Lexer.tokWF_of_lexOne`), not because of what `lexOne` returned. -/
def TokInv (cs r : List Char) : Tok → Prop
  | .keyword k => k ∈ keywordLits
  | .func f => f ∈ funcLits
  | .op o => o ∈ opLits
  | .hex ds => ds.all isHexDigit = true ∧ ds.length % 2 = 0
  | .str s => s.all (· != '"') = true
  | .var n | .param n => n.toList ≠ [] ∧ n.toList.all isNameChar = true
  | .date d => lexDate cs = some (d, r)
  | .int ds => ds ≠ [] ∧ ds.all isDigit = true
  | .ident s => ∃ c rest, cs = c :: rest ∧ isLower c = true ∧
      s = String.ofList (c :: (spanWhile isNameChar rest).1) ∧
      firstWordC fnC cs = none ∧ stripLit ['h','e','x',':'] cs = none ∧ firstWordC boolC cs = none
  | .punct c => c ∈ punctChars
  | _ => True

/-- The rules before position `i` matter for Ident only: Function, Hex and Bool come first. -/
theorem rule_out {q : LexRule} {i : Nat} (hq : (q, i) ∈ lexRules.zipIdx) {cs r : List Char} {t : Tok}
    (h : q cs = some (some t, r)) (prior : ∀ p ∈ lexRules.take i, p cs = none) : TokInv cs r t := by
  simp only [lexRules, List.zipIdx_cons, List.zipIdx_nil, Nat.zero_add, Nat.reduceAdd, List.mem_cons,
    List.not_mem_nil, or_false, Prod.mk.injEq] at hq
  rcases hq with ⟨rfl, rfl⟩ | ⟨rfl, rfl⟩ | ⟨rfl, rfl⟩ | ⟨rfl, rfl⟩ | ⟨rfl, rfl⟩ | ⟨rfl, rfl⟩ | ⟨rfl, rfl⟩ |
    ⟨rfl, rfl⟩ | ⟨rfl, rfl⟩ | ⟨rfl, rfl⟩ | ⟨rfl, rfl⟩ | ⟨rfl, rfl⟩ | ⟨rfl, rfl⟩ | ⟨rfl, rfl⟩ | ⟨rfl, rfl⟩ |
    ⟨rfl, rfl⟩ | ⟨rfl, rfl⟩ | ⟨rfl, rfl⟩ | ⟨rfl, rfl⟩
  · -- Keyword
    obtain ⟨p, hp, e⟩ := Option.map_eq_some_iff.1 h
    cases e
    rw [TokInv, keywordLits_eq]
    exact List.mem_map_of_mem (firstLitC_mem hp)
  · -- Function
    obtain ⟨p, hp, e⟩ := Option.map_eq_some_iff.1 h
    cases e
    rw [TokInv, funcLits_eq]
    exact List.mem_map_of_mem (firstWordC_mem hp)
  · -- Hex
    obtain ⟨p, -, e⟩ := Option.map_eq_some_iff.1 h
    cases e
    exact hexPairs_fst _
  · -- Dot
    obtain ⟨p, -, e⟩ := Option.map_eq_some_iff.1 h
    cases e
    trivial
  · -- Arrow
    obtain ⟨p, -, e⟩ := Option.map_eq_some_iff.1 h
    cases e
    trivial
  · -- Or
    obtain ⟨p, -, e⟩ := Option.map_eq_some_iff.1 h
    cases e
    trivial
  · -- And
    obtain ⟨p, -, e⟩ := Option.map_eq_some_iff.1 h
    cases e
    trivial
  · -- Operator
    obtain ⟨p, hp, e⟩ := Option.map_eq_some_iff.1 h
    cases e
    rw [TokInv, opLits_eq]
    exact List.mem_map_of_mem (firstLitC_mem hp)
  · -- Comment
    obtain ⟨p, -, e⟩ := Option.map_eq_some_iff.1 h
    cases e
    trivial
  · -- String
    obtain ⟨c, rest, rfl, -, h⟩ := headRule_eq_some.1 h
    split at h
    · cases h; exact spanWhile_fst_all _ _
    · cases h
  · -- Variable
    obtain ⟨c, rest, rfl, -, h⟩ := headRule_eq_some.1 h
    split at h
    · cases h
    · rename_i hne
      cases h
      simp only [TokInv, String.toList_ofList]
      exact ⟨by simpa using hne, spanWhile_fst_all _ _⟩
  · -- Parameter
    obtain ⟨c, rest, rfl, -, h⟩ := headRule_eq_some.1 h
    split at h
    · rename_i hne _
      cases h
      simp only [TokInv, String.toList_ofList]
      exact ⟨by simpa using hne, spanWhile_fst_all _ _⟩
    · cases h
  · -- DateTime
    obtain ⟨p, hp, e⟩ := Option.map_eq_some_iff.1 h
    cases e
    exact hp
  · -- Int
    obtain ⟨c, rest, rfl, hc, h⟩ := headRule_eq_some.1 h
    cases h
    exact ⟨by simp [spanWhile, hc], spanWhile_fst_all _ _⟩
  · -- Bool
    obtain ⟨p, -, e⟩ := Option.map_eq_some_iff.1 h
    cases e
    trivial
  · -- Ident
    obtain ⟨c, rest, rfl, hc, h⟩ := headRule_eq_some.1 h
    cases h
    have a1 := prior (wordRule .func fnC) (by simp [lexRules])
    have a2 := prior hexRule (by simp [lexRules])
    have a3 := prior (wordRule (fun b => .bool (b == "true")) boolC) (by simp [lexRules])
    simp only [wordRule, hexRule, Option.map_eq_none_iff] at a1 a2 a3
    exact ⟨c, rest, rfl, hc, rfl, a1, a2, a3⟩
  · -- Whitespace
    obtain ⟨c, rest, rfl, -, h⟩ := headRule_eq_some.1 h
    cases h
  · -- EOL
    obtain ⟨c, rest, rfl, -, h⟩ := headRule_eq_some.1 h
    cases h
  · -- Punct
    obtain ⟨c, rest, rfl, hc, h⟩ := headRule_eq_some.1 h
    cases h
    rw [TokInv, punctChars_eq]
    exact List.contains_iff_mem.mp hc

theorem lexOne_inv {cs r : List Char} {t : Tok} (h : lexOne cs = some (some t, r)) : TokInv cs r t := by
  rw [lexOne_eq] at h
  obtain ⟨i, hi, h1, h2⟩ := findSome?_idx h
  exact rule_out (List.mem_zipIdx_iff_getElem?.2 (List.getElem?_eq_getElem hi)) h1 h2

theorem lexOne_digit (c : Char) (rest : List Char) (h : isDigit c = true) :
    lexOne (c :: rest) = [dateRule, intRule].findSome? (· (c :: rest)) := by
  obtain ⟨a1, a2, a3, a4, a5⟩ := lower_rules_none c rest (isLower_of_isDigit h)
  obtain ⟨b1, b2, b3, b4, b5, b6, b7, b8, b9, b10, b11, b12⟩ := sym_rules_none isDigit (by decide) c rest h
  simp only [lexOne_eq, lexOneC, lexRules, List.findSome?_cons, List.findSome?_nil, a1, a2, a3, a4, a5, b1, b2, b3,
    b4, b5, b6, b7, b8, b9, b10, b11, b12]

theorem lexOne_lower (c : Char) (rest : List Char) (h : isLower c = true) :
    lexOne (c :: rest) = [litRule .keyword kwC, wordRule .func fnC, hexRule,
      wordRule (fun b => .bool (b == "true")) boolC, identRule].findSome? (· (c :: rest)) := by
  obtain ⟨a1, a2⟩ := digit_rules_none c rest (isDigit_of_isLower h)
  obtain ⟨b1, b2, b3, b4, b5, b6, b7, b8, b9, b10, b11, b12⟩ := sym_rules_none isLower (by decide) c rest h
  simp only [lexOne_eq, lexOneC, lexRules, List.findSome?_cons, List.findSome?_nil, a1, a2, b1, b2, b3, b4, b5,
    b6, b7, b8, b9, b10, b11, b12]

theorem lexOne_sym (c : Char) (rest : List Char) (h1 : isLower c = false) (h2 : isDigit c = false) :
    lexOne (c :: rest) = [symRule .dot ['.'], symRule .arrow ['<','-'], symRule .orOp ['|','|'],
      symRule .andOp ['&','&'], litRule .op opC, commentRule, strRule, varRule, paramRule,
      blankRule (fun x => x == ' ' || x == '\t'), blankRule (fun x => x == '\n' || x == '\r'),
      punctRule].findSome? (· (c :: rest)) := by
  obtain ⟨a1, a2, a3, a4, a5⟩ := lower_rules_none c rest h1
  obtain ⟨b1, b2⟩ := digit_rules_none c rest h2
  simp only [lexOne_eq, lexOneC, lexRules, List.findSome?_cons, List.findSome?_nil, a1, a2, a3, a4, a5, b1, b2]

def lexAuxC : Nat → List Char → Option (List Tok)
  | _, [] => some []
  | 0, _ :: _ => none
  | fuel + 1, cs =>
    match lexOneC cs with
    | none => none
    | some (t, rest) =>
      if rest.length < cs.length then
        match lexAuxC fuel rest with
        | none => none
        | some ts => some (match t with | some t => t :: ts | none => ts)
      else none

def lexC (s : List Char) : Option (List Tok) := lexAuxC (s.length + 1) s

theorem lexAux_eq (fuel : Nat) (cs : List Char) : lexAux fuel cs = lexAuxC fuel cs := by
  induction fuel generalizing cs with
  | zero => cases cs <;> rfl
  | succ n ih =>
    cases cs with
    | nil => rfl
    | cons c cs =>
      simp only [lexAux, lexAuxC, lexOne_eq, ih]
      rfl

theorem lex_eq (s : List Char) : lex s = lexC s := lexAux_eq _ s

/-- A goal `lex "abc".toList = r` is closed by `lex_lit (by decide +kernel)`: `l` unifies with the
characters of the literal, which is not decoded. -/
theorem lex_lit {l : List Char} {r : Option (List Tok)} (h : lexC l = r) : lex (String.ofList l).toList = r := by
  rw [String.toList_ofList, lex_eq]
  exact h

/-- A goal `String.ofList x = "…"` is closed by `ofList_lit (by decide +kernel)` on character lists, in
the same way.  For a literal of more than about a hundred characters write `apply ofList_lit`: elaborating
the term against the goal runs into the recursion limit, `apply` unifies `l` with the characters at once. -/
theorem ofList_lit {x l : List Char} (h : x = l) : String.ofList x = String.ofList l := congrArg _ h

/-- A literal written in two pieces, `("abc" ++ "def").toList`. -/
theorem toList_append_lit {a b : List Char} : (String.ofList a ++ String.ofList b).toList = a ++ b := by
  rw [String.toList_append, String.toList_ofList, String.toList_ofList]

theorem parseBlockText_eqC (s : List Char) :
    parseBlockText s = (lexC s).bind fun toks => parseItems (fuelFor toks) false toks := by
  rw [parseBlockText, lex_eq]

theorem parseSingleText_eqC (s : List Char) :
    parseSingleText s = (lexC s).bind fun toks =>
      match parseItem (fuelFor toks) true toks with
      | some (it, []) => some it
      | _ => none := by
  rw [parseSingleText, lex_eq]
  rfl

end Biscuit.Grammar
