/-
Proofs/SnapshotGate — lemmas for Props/C18Gate: the declared-symbols gate of
`LoadPolicies` (authorizer.go `loadPoliciesV2`, since fix 9b20311) against the model's
reading of the snapshot format (`resolveSnapshot`, Model/Symbols).

`snapshotDeclared` is the check `loadPoliciesV2` makes (the Go side is described in the header of
Props/C18Gate), written with the gate predicates of Model/Unmarshal.

Method: every resolver of Model/Symbols answers `some _` exactly when its argument is
declared in the table (the gate predicate) AND has the right shape (a predicate that does
not look at the table: no variable inside a set, ground facts, known operator and policy
codes). Stated as Bool equations `(resolve t x).isSome = (declared t x && shapeOK x)`, so
that they pass through `mapM` (`List.mapM_isSome_and`); a resolver that binds several independent
results is then the same Boolean function of them as the right-hand side. The same for a
token block (`resolveBlock_isSome`): what the builders produce resolves, hence is declared and
carries only known operator codes (Proofs/GateBuilder).
-/
import BiscuitModel.Proofs.WireAttenuation

namespace Biscuit
open Wire

/-- The table `loadPoliciesV2` checks against: a clone of the authorizer's base table
(empty: default symbols only) extended by the snapshot's table. `Extend` skips default
symbols and repeats. -/
def snapshotTable (m : PoliciesMsg) : SymTable := extendTable [] m.symbols

/-- What `loadPoliciesV2` asks of a snapshot since 9b20311: facts, rules, check queries
and policy queries refer only to declared indexes (predicate names, strings, variable
numbers, also inside sets and expressions). -/
def snapshotDeclared (m : PoliciesMsg) : Bool :=
  let t := snapshotTable m
  m.facts.all (predDeclared t) && m.rules.all (ruleDeclared t) &&
  m.checks.all (fun c => c.queries.all (ruleDeclared t)) &&
  m.policies.all (fun p => p.queries.all (ruleDeclared t))

def atomNotVar : IAtom → Bool
  | .variable _ => false
  | _ => true

/-- A set holds no variable (converters_v2.go: "set cannot contains variable"). -/
def termShapeOK : ITerm → Bool
  | .atom _ => true
  | .set l => l.all atomNotVar

def termIsGround : ITerm → Bool
  | .atom (.variable _) => false
  | _ => true

def predShapeOK (p : IPred) : Bool := p.terms.all termShapeOK

/-- A fact has no variable term. -/
def factShapeOK (p : IPred) : Bool := predShapeOK p && p.terms.all termIsGround

/-- Operator codes are those of the published enums. -/
def opShapeOK : IOp → Bool
  | .value v => termShapeOK v
  | .unary k => (unaryOfCode k).isSome
  | .binary k => (binaryOfCode k).isSome

def ruleShapeOK (r : IRule) : Bool :=
  predShapeOK r.head && r.body.all predShapeOK && r.exprs.all fun (e : List IOp) => e.all opShapeOK

def checkShapeOK (c : ICheck) : Bool := c.queries.all ruleShapeOK

/-- The policy kind is Allow = 0 or Deny = 1. -/
def policyShapeOK (p : IPolicy) : Bool :=
  (policyKindOfCode p.kind).isSome && p.queries.all ruleShapeOK

/-- Everything `resolveSnapshot` asks besides declared indexes: version 3; the saved
table holds no default symbol and no string twice (so that `Extend` adopts it as it is —
the model does not follow `LoadPolicies` outside this domain); sets without variables,
ground facts, known operator codes and policy kinds. -/
def snapshotShapeOK (m : PoliciesMsg) : Bool :=
  decide (m.version = some 3) && freshSymbols [] m.symbols &&
  m.facts.all factShapeOK && m.rules.all ruleShapeOK && m.checks.all checkShapeOK &&
  m.policies.all policyShapeOK

theorem snapshotTable_of_fresh (m : PoliciesMsg) (h : freshSymbols [] m.symbols = true) :
    snapshotTable m = m.symbols := by
  unfold snapshotTable
  rw [extendTable_of_fresh m.symbols [] h, List.nil_append]

theorem resolveAtom_isSome (t : SymTable) (a : IAtom) :
    (resolveAtom t a).isSome = (atomDeclared t a && atomNotVar a) := by
  cases a with
  | «variable» n => simp [resolveAtom, atomNotVar]
  | string n => simp [resolveAtom, atomNotVar, atomDeclared, symDeclared]
  | integer i => rfl
  | date d => rfl
  | bytes b => rfl
  | bool b => rfl

theorem resolveTerm_isSome (t : SymTable) (x : ITerm) :
    (resolveTerm t x).isSome = (termDeclared t x && termShapeOK x) := by
  match x with
  | .atom (.variable n) => simp [resolveTerm, termDeclared, atomDeclared, symDeclared, termShapeOK]
  | .atom (.string n) => simp [resolveTerm, resolveAtom, termDeclared, atomDeclared, symDeclared, termShapeOK]
  | .atom (.integer i) => rfl
  | .atom (.date d) => rfl
  | .atom (.bytes b) => rfl
  | .atom (.bool b) => rfl
  | .set l =>
    show ((l.mapM (resolveAtom t)).map _).isSome = (l.all (atomDeclared t) && l.all atomNotVar)
    rw [Option.isSome_map, List.mapM_isSome_and (resolveAtom_isSome t)]

theorem resolvePred_isSome (t : SymTable) (p : IPred) :
    (resolvePred t p).isSome = (predDeclared t p && predShapeOK p) := by
  rw [predDeclared, predShapeOK, symDeclared, Bool.and_assoc, ← List.mapM_isSome_and (resolveTerm_isSome t), resolvePred]
  cases symStr t p.name <;> cases p.terms.mapM (resolveTerm t) <;> rfl

theorem termGround_of_resolve (t : SymTable) (x : ITerm) (y : Term Val) (h : resolveTerm t x = some y) :
    (termGround y).isSome = termIsGround x := by
  cases x with
  | set l => obtain ⟨_, _, rfl⟩ := Option.map_eq_some_iff.mp h; rfl
  | atom a =>
    cases a with
    | «variable» n => obtain ⟨_, _, rfl⟩ := Option.map_eq_some_iff.mp h; rfl
    | string n => obtain ⟨_, _, rfl⟩ := Option.map_eq_some_iff.mp h; rfl
    | integer i => cases h; rfl
    | date d => cases h; rfl
    | bytes b => cases h; rfl
    | bool b => cases h; rfl

theorem resolvePred_terms (t : SymTable) (p : IPred) (q : Pred Val) (h : resolvePred t p = some q) :
    p.terms.mapM (resolveTerm t) = some q.terms := by
  simp only [resolvePred, Option.bind_eq_bind, Option.pure_def, Option.bind_eq_some_iff, Option.some.injEq] at h
  obtain ⟨_, _, ts, hts, rfl⟩ := h
  exact hts

theorem resolveFact_isSome (t : SymTable) (p : IPred) :
    (resolveFact t p).isSome = (predDeclared t p && factShapeOK p) := by
  rw [factShapeOK, ← Bool.and_assoc, ← resolvePred_isSome, resolveFact]
  cases hq : resolvePred t p with
  | none => rfl
  | some q =>
    rw [← List.mapM_mapM_isSome _ _ _ (termGround_of_resolve t) _ _ (resolvePred_terms t p q hq)]
    show ((q.terms.mapM termGround).bind _).isSome = _
    cases q.terms.mapM termGround <;> rfl

theorem resolveOp_isSome (t : SymTable) (o : IOp) :
    (resolveOp t o).isSome = (opDeclaredV t o && opShapeOK o) := by
  cases o with
  | value v =>
    show ((resolveTerm t v).map _).isSome = _
    rw [Option.isSome_map, resolveTerm_isSome, ← termDeclaredV_eq]; rfl
  | unary k =>
    show ((unaryOfCode k).map _).isSome = _
    rw [Option.isSome_map]; rfl
  | binary k =>
    show ((binaryOfCode k).map _).isSome = _
    rw [Option.isSome_map]; rfl

/-- Three components, each `declared && shapeOK` (left), regrouped as all declared, then all
shapes (right). Rewritten right to left, so that each `mapM_isSome_and` finds its pair. -/
theorem bool_shuffle3 : ∀ a b c d e f : Bool,
    ((a && d) && ((b && e) && (c && f))) = ((a && b && c) && (d && e && f)) := by decide

theorem resolveRule_isSome (t : SymTable) (r : IRule) :
    (resolveRule t r).isSome = (ruleDeclared t r && ruleShapeOK r) := by
  -- `ruleDeclared` written out as head, body, expressions
  rw [← ruleDeclaredV_eq, ruleDeclaredV, predDeclaredV_eq]
  rw [ruleShapeOK, ← bool_shuffle3, ← resolvePred_isSome, ← List.mapM_isSome_and (resolvePred_isSome t),
    ← List.mapM_isSome_and (fun e => List.mapM_isSome_and (resolveOp_isSome t) e), resolveRule]
  cases resolvePred t r.head <;> cases r.body.mapM (resolvePred t) <;>
    cases r.exprs.mapM (fun e => e.mapM (resolveOp t)) <;> rfl

theorem resolveCheck_isSome (t : SymTable) (c : ICheck) :
    (resolveCheck t c).isSome = (c.queries.all (ruleDeclared t) && checkShapeOK c) := by
  rw [checkShapeOK, ← List.mapM_isSome_and (resolveRule_isSome t), resolveCheck]
  cases c.queries.mapM (resolveRule t) <;> rfl

theorem resolvePolicy_isSome (t : SymTable) (p : IPolicy) :
    (resolvePolicy t p).isSome = (p.queries.all (ruleDeclared t) && policyShapeOK p) := by
  rw [policyShapeOK, Bool.and_left_comm, ← List.mapM_isSome_and (resolveRule_isSome t), resolvePolicy]
  cases policyKindOfCode p.kind <;> cases p.queries.mapM (resolveRule t) <;> rfl

/-- What `resolveBlock` asks besides declared indexes. -/
def blockShapeOK (m : BlockMsg) : Bool :=
  versionOk m.version && m.facts.all factShapeOK && m.rules.all ruleShapeOK && m.checks.all checkShapeOK

theorem resolveBlock_isSome (t : SymTable) (m : BlockMsg) :
    (resolveBlock t m).isSome = (blockDeclared t m && blockShapeOK m) := by
  have sh : ∀ v a b c d e f : Bool,
      ((a && b && c) && (v && d && e && f)) = (v && ((a && d) && ((b && e) && (c && f)))) := by decide
  rw [blockDeclared, blockShapeOK, sh, ← List.mapM_isSome_and (resolveFact_isSome t),
    ← List.mapM_isSome_and (resolveRule_isSome t), ← List.mapM_isSome_and (resolveCheck_isSome t), resolveBlock]
  cases versionOk m.version <;> cases m.facts.mapM (resolveFact t) <;> cases m.rules.mapM (resolveRule t) <;>
    cases m.checks.mapM (resolveCheck t) <;> rfl

theorem ruleKinds_of_shape (r : IRule) (h : ruleShapeOK r = true) : ruleKindsValid r = true := by
  simp only [ruleShapeOK, Bool.and_eq_true] at h
  refine List.all_imp (fun e he => List.all_imp (fun o ho => ?_) e he) _ h.2
  cases o with
  | value _ => rfl
  | unary _ => exact ho
  | binary _ => exact ho

theorem blockKinds_of_shape (m : BlockMsg) (h : blockShapeOK m = true) : blockKindsValid m = true := by
  simp only [blockShapeOK, blockKindsValid, Bool.and_eq_true] at h ⊢
  exact ⟨List.all_imp ruleKinds_of_shape _ h.1.2, List.all_imp (fun c hc => List.all_imp ruleKinds_of_shape _ hc) _ h.2⟩

/-- The same for four components, with the shapes first on the right, as `snapshotShapeOK &&
snapshotDeclared` has them. -/
theorem bool_shuffle4 : ∀ a b c d e f g h : Bool,
    ((a && e) && ((b && f) && ((c && g) && (d && h)))) = ((e && f && g && h) && (a && b && c && d)) := by
  decide

/-- **The reading of the format, split in two.** The model reads a snapshot exactly when
it has the right shape and passes the code's declared-symbols gate. -/
theorem resolveSnapshot_isSome (m : PoliciesMsg) :
    (resolveSnapshot m).isSome = (snapshotShapeOK m && snapshotDeclared m) := by
  by_cases hv : m.version = some 3
  · cases hf : freshSymbols [] m.symbols
    · simp [resolveSnapshot, snapshotShapeOK, hv, hf]
    · -- `Extend` adopts the saved table as it is; both sides are then the same Boolean function of
      -- the four lists resolved through it
      simp only [snapshotShapeOK, snapshotDeclared, snapshotTable, extendTable_of_fresh m.symbols [] hf,
        List.nil_append, hv, hf, decide_true, Bool.true_and]
      rw [← bool_shuffle4, ← List.mapM_isSome_and (resolveFact_isSome _), ← List.mapM_isSome_and (resolveRule_isSome _),
        ← List.mapM_isSome_and (resolveCheck_isSome _), ← List.mapM_isSome_and (resolvePolicy_isSome _), resolveSnapshot]
      simp only [hv, hf, ne_eq, not_true_eq_false, if_false, Bool.not_true, Bool.false_eq_true]
      cases m.facts.mapM (resolveFact m.symbols) <;> cases m.rules.mapM (resolveRule m.symbols) <;>
        cases m.checks.mapM (resolveCheck m.symbols) <;> cases m.policies.mapM (resolvePolicy m.symbols) <;> rfl
  · rw [sym_load_rejects_other_versions m hv]
    simp [snapshotShapeOK, hv]

end Biscuit
