/-
Proofs/Lexer — the sub-lexers of `Model/Grammar.lexOne`, and the well-formed tokens.

* what `spanWhile`, `hexPairs`, `takeDigits` return; character classes told apart.
* the literal lists `keywordLits`, `funcLits`, `opLits`, `boolLits` are definitionally the inline
  lists of `lexOne`.
* `lexDate = lexDate'`: the Date rule as a chain of `Option.bind`s with the optional fraction and
  zone as functions of their own (`dateFrac`, `dateZone`, `dateFin`); it needs a digit to start.
* `C14Lexer.tokWF`: the tokens that survive the round trip (`Props/C14Lexer`, `Props/C14Layout`).
* tactic `lex_inv`: inverts a hypothesis about `lexOne` by brute force (one goal per branch of its
  conditionals).  The proofs do not go that way: `lexOne` is taken apart rule by rule in
  `Proofs/LexRules` (`lexOne_eq`, `lexOne_inv`).
-/
import BiscuitModel.Model.Spell

namespace Biscuit.Grammar

theorem spanWhile_fst_all (p : Char → Bool) (cs : List Char) : (spanWhile p cs).1.all p = true := by
  fun_induction spanWhile p cs with
  | case1 => rfl
  | case2 c cs h r ih => simp [r, h, ih]
  | case3 c cs h => rfl

theorem spanWhile_append (p : Char → Bool) (cs : List Char) :
    (spanWhile p cs).1 ++ (spanWhile p cs).2 = cs := by
  fun_induction spanWhile p cs with
  | case1 => rfl
  | case2 c cs h r ih => simp [r, ih]
  | case3 c cs h => rfl

theorem spanWhile_snd_head (p : Char → Bool) (cs : List Char) (x : Char) (r : List Char)
    (h : (spanWhile p cs).2 = x :: r) : p x = false := by
  fun_induction spanWhile p cs with
  | case1 => cases h
  | case2 c cs hc r' ih => exact ih h
  | case3 c cs hc => cases h; simpa using hc

theorem hexPairs_fst (cs : List Char) :
    (hexPairs cs).1.all isHexDigit = true ∧ (hexPairs cs).1.length % 2 = 0 := by
  fun_induction hexPairs cs with
  | case1 a b rest h r ih =>
    simp only [Bool.and_eq_true] at h
    change (a :: b :: (hexPairs rest).1).all isHexDigit = true ∧ (a :: b :: (hexPairs rest).1).length % 2 = 0
    simp only [List.all_cons, h.1, h.2, ih.1, Bool.and_self, List.length_cons, true_and]
    have := ih.2
    omega
  | case2 a b rest h => simp
  | case3 cs h => simp

theorem ne_of_pred {p : Char → Bool} {c d : Char} (hc : p c = true) (hd : p d = false) : c ≠ d := by
  rintro rfl; rw [hc] at hd; cases hd

theorem ne_of_pred' {p : Char → Bool} {c d : Char} (hc : p c = false) (hd : p d = true) : c ≠ d := by
  rintro rfl; rw [hc] at hd; cases hd

theorem isLower_of_isDigit {c : Char} (h : isDigit c = true) : isLower c = false := by
  cases hl : isLower c with
  | false => rfl
  | true =>
    simp only [isDigit, isLower, Bool.and_eq_true, decide_eq_true_eq] at h hl
    have h1 := h.2; have h2 := hl.1
    exact absurd (Char.le_trans h2 h1) (by decide)

theorem isDigit_of_isLower {c : Char} (h : isLower c = true) : isDigit c = false := by
  cases hd : isDigit c with
  | false => rfl
  | true => rw [isLower_of_isDigit hd] at h; cases h

def keywordLits : List String := ["check if", "allow if", "deny if"]
def funcLits : List String := ["prefix", "suffix", "matches", "length", "contains"]
def opLits : List String := ["==", ">=", "<=", ">", "<", "+", "-", "*"]
def boolLits : List String := ["true", "false"]

theorem stripLit_none_of_head (p : Char → Bool) (l : List Char) (c : Char) (cs : List Char)
    (hl : l.head?.map p = some true) (hc : p c = false) : stripLit l (c :: cs) = none := by
  cases l with
  | nil => simp at hl
  | cons a ls =>
    simp only [List.head?_cons, Option.map_some, Option.some.injEq] at hl
    simp [stripLit, ne_of_pred hl hc]

def dateFrac (r : List Char) : List Char × List Char :=
  match r with
  | '.' :: r' => let sp := spanWhile isDigit r'; if sp.1.isEmpty then ([], r) else ('.' :: sp.1, sp.2)
  | _ => ([], r)

def dateZone (r : List Char) : List Char × List Char :=
  match r with
  | 'Z' :: r' => (['Z'], r')
  | sgn :: r' =>
    if sgn == '+' || sgn == '-' then
      match takeDigits 2 r' with
      | some (zh, r'') => match stripLit [':'] r'' with
        | some r3 => match takeDigits 2 r3 with
          | some (zm, r4) => (sgn :: zh ++ [':'] ++ zm, r4)
          | none => ([], r)
        | none => ([], r)
      | none => ([], r)
    else ([], r)
  | [] => ([], r)

def dateFin (base r : List Char) : List Char × List Char :=
  match dateFrac r with
  | (frac, r) => match dateZone r with
    | (zone, r) => (base ++ frac ++ zone, r)

def lexDate' (cs : List Char) : Option (List Char × List Char) :=
  (takeDigits 4 cs).bind fun p1 =>
  (stripLit ['-'] p1.2).bind fun r =>
  (takeDigits 2 r).bind fun p2 =>
  (stripLit ['-'] p2.2).bind fun r =>
  (takeDigits 2 r).bind fun p3 =>
  (stripLit ['T'] p3.2).bind fun r =>
  (takeDigits 2 r).bind fun p4 =>
  (stripLit [':'] p4.2).bind fun r =>
  (takeDigits 2 r).bind fun p5 =>
  (stripLit [':'] p5.2).bind fun r =>
  (takeDigits 2 r).bind fun p6 =>
  some (dateFin (p1.1 ++ ['-'] ++ p2.1 ++ ['-'] ++ p3.1 ++ ['T'] ++ p4.1 ++ [':'] ++ p5.1 ++ [':'] ++ p6.1) p6.2)

theorem lexDate_eq (cs : List Char) : lexDate cs = lexDate' cs := by
  rfl

theorem dateFrac_dot (r : List Char) : dateFrac ('.' :: r) =
    if (spanWhile isDigit r).1.isEmpty then ([], '.' :: r) else ('.' :: (spanWhile isDigit r).1, (spanWhile isDigit r).2) := rfl

theorem dateFrac_ne (c : Char) (r : List Char) (hc : c ≠ '.') : dateFrac (c :: r) = ([], c :: r) := by
  unfold dateFrac
  split
  · rename_i h; injection h with h1 _; exact absurd h1 hc
  · rfl

theorem takeDigits_some {n : Nat} {cs : List Char} {p : List Char × List Char}
    (h : takeDigits n cs = some p) : p = (cs.take n, cs.drop n) ∧ n ≤ cs.length := by
  unfold takeDigits at h
  dsimp only at h
  split at h
  · rename_i hc
    simp only [Bool.and_eq_true, decide_eq_true_eq, List.length_take] at hc
    cases h
    exact ⟨rfl, by omega⟩
  · cases h

theorem lexDate_nil : lexDate [] = none := by decide

theorem lexDate_nondigit (c : Char) (cs : List Char) (h : isDigit c = false) : lexDate (c :: cs) = none := by
  simp [lexDate_eq, lexDate', takeDigits, h]

theorem lexDate_head (s : List Char) (p : List Char × List Char) (h : lexDate s = some p) :
    ∃ c r, s = c :: r ∧ isDigit c = true := by
  cases s with
  | nil => rw [lexDate_nil] at h; cases h
  | cons c r =>
    refine ⟨c, r, rfl, ?_⟩
    cases hc : isDigit c with
    | true => rfl
    | false => rw [lexDate_nondigit c r hc] at h; cases h

-- `lex_inv h`: splits a hypothesis `h : lexOne cs = …` into the branches of `lexOne`.
macro "lex_inv " h:ident : tactic =>
  `(tactic| (unfold lexOne at $h:ident
             repeat' ((try dsimp only at $h:ident); split at $h:ident)
             all_goals try (simp at $h:ident; done)))

/-- What an identifier must not be: the first word of a keyword. -/
def keywordHeads : List (List Char) := ["check".toList, "allow".toList, "deny".toList]

/-- Punctuation characters that, followed by a space, are not claimed by an earlier rule:
`punctChars` without `. - + * < >` (Dot, Operator) and `"` (String, when a closing quote follows). -/
def wfPunct : List Char := "[!@%^&#$()_={}|:;',?/]".toList

end Biscuit.Grammar

namespace Biscuit.C14Lexer
open Biscuit Biscuit.Grammar

/-- Variable / parameter names: `[a-zA-Z0-9_:]+`. -/
def nameOK (s : List Char) : Bool := !s.isEmpty && s.all isNameChar

/-- Identifiers: `[a-z][a-zA-Z0-9_:]*` that no earlier rule claims:
* not `check`, `allow`, `deny` (with the space of `spell` and a following `if…` the Keyword
  rule matches: `check if`),
* the Function rule `(prefix|suffix|matches|length|contains)\b` does not match at the start
  (`length`, `length:x` are claimed — `:` is not a word character; `lengthy`, `length_x` are not),
* does not start with `hex:`,
* the Bool rule `(true|false)\b` does not match at the start (`true`, `true:x`; not `truex`). -/
def identOK : List Char → Bool
  | [] => false
  | c :: r =>
    isLower c && r.all isNameChar && !keywordHeads.contains (c :: r)
      && (firstWord funcLits (c :: r)).isNone
      && (stripLit "hex:".toList (c :: r)).isNone
      && (firstWord boolLits (c :: r)).isNone

def tokWF : Tok → Bool
  | .keyword k => keywordLits.contains k
  | .func f => funcLits.contains f
  | .hex ds => ds.all isHexDigit && ds.length % 2 == 0
  | .dot => true
  | .arrow => true
  | .orOp => true
  | .andOp => true
  | .op s => opLits.contains s
  | .comment => false                             -- swallows the rest of the line
  | .str s => s.all (· != '"')                    -- newlines inside are fine
  | .var n => nameOK n.toList
  | .param n => nameOK n.toList
  | .date s => lexDate s == some (s, [])
  | .int ds => !ds.isEmpty && ds.all isDigit      -- the earlier Date rule fails on digits alone (`-` at position 4)
  | .bool _ => true
  | .ident s => identOK s.toList
  | .punct c => wfPunct.contains c

def TokWF (t : Tok) : Prop := tokWF t = true

instance : DecidablePred TokWF := fun t => inferInstanceAs (Decidable (tokWF t = true))

end Biscuit.C14Lexer
