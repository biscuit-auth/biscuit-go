/-
Proofs/ListOption — lists against `Option` and `Bool`, pointwise.

* `l.mapM f = some ys` says that `f` succeeds on every element of `l` and that `ys` lists the
  results in order (`mapM_eq_some_iff` and its corollaries); whether it succeeds at all is
  `l.all fun x => (f x).isSome` (`mapM_isSome`, and `mapM_isSome_and` when success is a
  conjunction of two tests); a decoder that answers `if small x then some (norm x) else none`
  on each encoding answers likewise on the list (`mapM_map_ite`).
* `all` of a conjunction, of a weaker test (`all_and_all`, `all_imp`); a map that fixes every
  element (`map_eq_self`).
* A fold that keeps the last selected value is `getLast?` of the selected values
  (`foldl_or_eq_getLast?`, `Option.getLast?_toList`).

No induction over a list is needed in a proof that uses these.
-/

namespace List
variable {α β γ : Type}

theorem mapM_eq_some_iff {f : α → Option β} {l : List α} {ys : List β} :
    l.mapM f = some ys ↔ l.map f = ys.map some := by
  induction l generalizing ys with
  | nil => cases ys <;> simp
  | cons x xs ih =>
    cases ys with
    | nil => rw [mapM_cons]; cases f x <;> cases xs.mapM f <;> simp
    | cons y ys =>
      rw [mapM_cons, map_cons, map_cons, cons.injEq, ← ih]
      cases f x <;> cases xs.mapM f <;> simp

theorem exists_mem_of_mapM {f : α → Option β} {l : List α} {ys : List β} (hm : l.mapM f = some ys)
    {x : α} (hx : x ∈ l) : ∃ y ∈ ys, f x = some y := by
  rw [mapM_eq_some_iff] at hm
  have : f x ∈ ys.map some := hm ▸ mem_map_of_mem hx
  obtain ⟨y, hy, e⟩ := mem_map.1 this
  exact ⟨y, hy, e.symm⟩

theorem mapM_eq_none_of_mem {f : α → Option β} {l : List α} {x : α} (hx : x ∈ l) (h : f x = none) :
    l.mapM f = none := by
  cases hm : l.mapM f with
  | none => rfl
  | some ys =>
    obtain ⟨y, -, e⟩ := exists_mem_of_mapM hm hx
    rw [h] at e
    cases e

theorem map_eq_of_mapM {f : α → Option β} {g : α → γ} {h : β → γ} {l : List α} {ys : List β}
    (hm : l.mapM f = some ys) (hp : ∀ x ∈ l, ∀ y, f x = some y → g x = h y) : l.map g = ys.map h := by
  rw [mapM_eq_some_iff] at hm
  induction l generalizing ys with
  | nil => cases ys <;> simp_all
  | cons x xs ih =>
    cases ys with
    | nil => simp at hm
    | cons y ys =>
      simp only [map_cons, cons.injEq] at hm
      rw [map_cons, map_cons, hp x (by simp) y hm.1, ih hm.2 (fun z hz => hp z (mem_cons_of_mem _ hz))]

theorem mapM_comp_of_mapM {f : α → Option β} {g : β → Option γ} {k : α → γ} {l : List α} {ys : List β}
    (hm : l.mapM f = some ys) (hp : ∀ x ∈ l, ∀ y, f x = some y → g y = some (k x)) :
    ys.mapM g = some (l.map k) := by
  rw [mapM_eq_some_iff, map_map]
  exact (map_eq_of_mapM hm (fun x hx y hy => (hp x hx y hy).symm)).symm

theorem mapM_map_some (f : α → β) (g : β → Option γ) (k : α → γ) (l : List α)
    (h : ∀ x ∈ l, g (f x) = some (k x)) : (l.map f).mapM g = some (l.map k) := by
  rw [mapM_eq_some_iff, map_map, map_map]
  exact map_congr_left h

theorem mapM_some_of_forall {f : α → Option β} {Q : β → Prop} {l : List α}
    (h : ∀ x ∈ l, ∃ y, f x = some y ∧ Q y) :
    ∃ ys, l.mapM f = some ys ∧ ys.length = l.length ∧ ∀ y ∈ ys, Q y := by
  induction l with
  | nil => exact ⟨[], rfl, rfl, by simp⟩
  | cons x xs ih =>
    obtain ⟨y, hy, hq⟩ := h x (by simp)
    obtain ⟨ys, hys, hlen, hall⟩ := ih (fun z hz => h z (mem_cons_of_mem _ hz))
    exact ⟨y :: ys, by simp [mapM_cons, hy, hys], by simp [hlen], by simpa [hq] using hall⟩

theorem mapM_isSome (f : α → Option β) (l : List α) :
    (l.mapM f).isSome = l.all fun x => (f x).isSome := by
  induction l with
  | nil => rfl
  | cons x xs ih =>
    rw [mapM_cons, all_cons, ← ih]
    cases f x with
    | none => rfl
    | some y => cases xs.mapM f <;> rfl

theorem all_and_all (p q : α → Bool) (l : List α) :
    (l.all fun x => p x && q x) = (l.all p && l.all q) := by
  induction l with
  | nil => rfl
  | cons x xs ih =>
    simp only [all_cons, ih]
    cases p x <;> cases q x <;> cases xs.all p <;> cases xs.all q <;> rfl

theorem mapM_isSome_and {f : α → Option β} {d s : α → Bool}
    (h : ∀ x, (f x).isSome = (d x && s x)) (l : List α) : (l.mapM f).isSome = (l.all d && l.all s) := by
  rw [mapM_isSome, ← all_and_all]
  exact congrArg l.all (funext h)

/-- A second `mapM` over the results of a first one: both sides are `all id` of two equal maps. -/
theorem mapM_mapM_isSome (f : α → Option β) (g : β → Option γ) (d : α → Bool)
    (h : ∀ x y, f x = some y → (g y).isSome = d x) (l : List α) (ys : List β) (hys : l.mapM f = some ys) :
    (ys.mapM g).isSome = l.all d := by
  have e := map_eq_of_mapM (g := d) (h := fun y => (g y).isSome) hys (fun x _ y hy => (h x y hy).symm)
  simpa [mapM_isSome, all_map, Function.comp_def] using (congrArg (all · id) e).symm

theorem mapM_map_ite {enc : α → β} {dec : β → Option γ} {small : α → Bool} {norm : α → γ}
    (h : ∀ x, dec (enc x) = if small x then some (norm x) else none) (l : List α) :
    (l.map enc).mapM dec = if l.all small then some (l.map norm) else none := by
  induction l with
  | nil => rfl
  | cons x l ih =>
    rw [map_cons, mapM_cons, ih, h, all_cons]
    cases small x <;> cases l.all small <;> rfl

theorem all_imp {d d' : α → Bool} (h : ∀ x, d x = true → d' x = true) (l : List α)
    (hl : l.all d = true) : l.all d' = true := by
  rw [all_eq_true] at hl ⊢
  exact fun x hx => h x (hl x hx)

theorem map_eq_self {f : α → α} {l : List α} (h : ∀ x ∈ l, f x = x) : l.map f = l := by
  conv => rhs; rw [← map_id l]
  exact map_congr_left h

theorem foldl_or_eq_getLast? (sel : α → Option β) (l : List α) (acc : Option β) :
    l.foldl (fun acc x => (sel x).or acc) acc = (l.filterMap sel).getLast?.or acc := by
  induction l generalizing acc with
  | nil => simp
  | cons x l ih =>
    rw [foldl_cons, ih, filterMap_cons]
    cases sel x with
    | none => rfl
    | some v => rw [getLast?_cons]; cases (l.filterMap sel).getLast? <;> rfl

end List

namespace Option
variable {α β : Type}

theorem getLast?_toList (o : Option α) : o.toList.getLast? = o := by cases o <;> rfl

end Option
