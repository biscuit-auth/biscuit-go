/-
Proofs/GateBuilder — lemmas for Props/C02Gate: how one block produced by the library's own
builder (`buildBlockMsg`, Model/Symbols) looks to the declared-symbols gate (`blockDeclared`,
Model/Unmarshal; Go `checkDeclaredSymbols`), and that `Unmarshal` parses the encodings of
well-formed block messages (`parseAll_encoded`).

A built block resolves back to its content in the builder's final table, over any starting
table (`buildBlockMsg_resolves`, Proofs/Symbols); what resolves is declared and has the
right shape (`resolveBlock_isSome`, Proofs/SnapshotGate) — every index, variable numbers
included, and only operator codes of the published enums.
-/
import BiscuitModel.Proofs.SnapshotGate
import BiscuitModel.Proofs.WireRoundtrip
import BiscuitModel.Proofs.WireEnvelope

namespace Biscuit
open Wire

theorem buildBlockMsg_declared_shape (start : SymTable) (c : BlockContent) :
    blockDeclared (buildBlockMsg start c).1 (buildBlockMsg start c).2 = true ∧
    blockShapeOK (buildBlockMsg start c).2 = true := by
  have h := resolveBlock_isSome (buildBlockMsg start c).1 (buildBlockMsg start c).2
  rw [buildBlockMsg_resolves, Option.isSome_some] at h
  exact Bool.and_eq_true_iff.mp h.symm

theorem buildBlockMsgs_mem (cs : List BlockContent) : ∀ (base : SymTable) (m : BlockMsg),
    m ∈ buildBlockMsgs base cs → ∃ start c, m = (buildBlockMsg start c).2 := by
  induction cs with
  | nil => intro _ m hm; cases hm
  | cons c cs ih =>
    intro base m hm
    rcases List.mem_cons.mp hm with rfl | hm'
    · exact ⟨base, c, rfl⟩
    · exact ih _ m hm'

theorem parseSigned_encoded (sb : SignedBlockMsg) (m : BlockMsg) (hb : sb.block = encodeBlock m)
    (hs : sb.nextKey.key.length = 32 ∧ sb.signature.length = 64)
    (hwf : BlockWF m) (hv : versionOk m.version = true) (hk : blockKindsValid m = true) :
    parseSigned sb = .ok m := by
  have hg : sizeGate sb = .ok () := by simp [sizeGate, hs.1, hs.2]
  have hp : parseBlock sb.block = .ok m := by
    simp [parseBlock, hb, wire_decodeBlock_enc m hwf, hv, hk]
  simp only [parseSigned, hg, hp]
  rfl

theorem parseAll_encoded : ∀ (sbs : List SignedBlockMsg) (ms : List BlockMsg),
    sbs.map (·.block) = ms.map encodeBlock →
    (∀ sb ∈ sbs, sb.nextKey.key.length = 32 ∧ sb.signature.length = 64) →
    (∀ m ∈ ms, BlockWF m ∧ versionOk m.version = true ∧ blockKindsValid m = true) →
    parseAll sbs = .ok ms
  | [], [], _, _, _ => rfl
  | [], _ :: _, hb, _, _ => nomatch hb
  | _ :: _, [], hb, _, _ => nomatch hb
  | sb :: sbs, m :: ms, hb, hs, hm => by
    simp only [List.map_cons, List.cons.injEq] at hb
    obtain ⟨h1, h2, h3⟩ := hm m List.mem_cons_self
    simp only [parseAll, parseSigned_encoded sb m hb.1 (hs sb List.mem_cons_self) h1 h2 h3,
      parseAll_encoded sbs ms hb.2 (fun x hx => hs x (List.mem_cons_of_mem _ hx))
        (fun x hx => hm x (List.mem_cons_of_mem _ hx))]

end Biscuit
