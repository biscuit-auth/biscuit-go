/-
Proofs/Expr — helper lemmas for C06: the table of the binary operators (`C06.accepts`,
`evalBinary_cls`: typing and absence of panics in one sweep), stack depth (`C06.depthAfter`),
sets, checked arithmetic and 64-bit division. `C06.accepts`, `C06.acceptsUnary` and
`C06.depthAfter` are declared here, not in Props/C06, because these lemmas are stated with them.
-/
import BiscuitModel.Model.Expr

namespace Biscuit

theorem Outcome.isPanic_bind {α β : Type} {x : Outcome α} {f : α → Outcome β}
    (hx : x.isPanic = false) (hf : ∀ a, (f a).isPanic = false) :
    (x.bind f).isPanic = false := by
  cases x with
  | ok a => exact hf a
  | err e => rfl
  | panic s => cases hx

theorem Outcome.bind_eq_ok {α β : Type} {x : Outcome α} {f : α → Outcome β} {b : β}
    (h : x.bind f = .ok b) : ∃ a, x = .ok a ∧ f a = .ok b := by
  cases x with
  | ok a => exact ⟨a, rfl, h⟩
  | err e => cases h
  | panic s => cases h

theorem Outcome.isOk_iff {α : Type} (o : Outcome α) : o.isOk = true ↔ ∃ a, o = .ok a := by
  cases o <;> simp [Outcome.isOk]

namespace C06

/-- Accepted operand types per binary operator, written from the property text
(and proved equal to the table regenerated from the Go code in `Props/Tables`). -/
def accepts : BinOp → VType → VType → Bool
  | .lt, l, r | .le, l, r | .gt, l, r | .ge, l, r =>
      (l == .integer && r == .integer) || (l == .date && r == .date)
  | .eq, l, r => l == r
  | .contains, .string, r => r == .string
  | .contains, .set, _ => true
  | .contains, _, _ => false
  | .intersection, l, r | .union, l, r => l == .set && r == .set
  | .pfx, l, r | .sfx, l, r | .regex, l, r => l == .string && r == .string
  | .add, l, r => (l == .string && r == .string) || (l == .integer && r == .integer)
  | .sub, l, r | .mul, l, r | .div, l, r => l == .integer && r == .integer
  | .and, l, r | .or, l, r => l == .bool && r == .bool

def acceptsUnary : UnOp → VType → Bool
  | .negate, t => t == .bool
  | .parens, _ => true
  | .length, t => t == .string || t == .bytes || t == .set

end C06

/-- What the typing table and the no-panic theorem ask of an outcome. -/
inductive OutcomeClass
  | typeErr | panic | other
  deriving DecidableEq

def Outcome.cls : Outcome Val → OutcomeClass
  | .err .type => .typeErr
  | .panic _ => .panic
  | _ => .other

theorem Outcome.cls_eq_typeErr (o : Outcome Val) : o.cls = .typeErr ↔ o = .err .type := by
  unfold Outcome.cls
  split <;> simp_all

theorem Outcome.isPanic_of_cls {o : Outcome Val} (h : o.cls ≠ .panic) : o.isPanic = false := by
  cases o with
  | panic s => exact absurd rfl h
  | ok v => rfl
  | err e => rfl

theorem boolV_no_panic (b : Bool) : (boolV b).isPanic = false := rfl

theorem pinnedSetGuard_loops (cfg : EvalCfg) (hs : cfg.sets = .loops) (s t : List Atom) (k : Outcome Val) :
    pinnedSetGuard cfg s t k = k := by
  simp [pinnedSetGuard, hs]

theorem checkedInt_cls (x : Int) : (checkedInt x).cls = .other := by
  unfold checkedInt; split <;> rfl

/-- **The table of the binary operators** (for `sets := .loops`): a type error exactly
outside `accepts`, and never a panic. Operators and operand shapes are finitely many and on
each both sides compute. Where operator and left operand already decide, `evalBinary` does
not look at the right operand and `rfl` closes the goal before the right operand is split.
Five entries have a value that depends on the operands: the regex oracle, checked `+ - *`,
and division. -/
theorem evalBinary_cls (rx : Regex) (dv : DivMode) (op : BinOp) (l r : Val) :
    (evalBinary ⟨rx, dv, .loops⟩ op l r).cls =
      bif C06.accepts op l.type r.type then .other else .typeErr := by
  cases op <;> rcases l with (a | a | a | a | a) | s <;> (try exact rfl) <;>
    rcases r with (b | b | b | b | b) | t
  case regex.atom.str.atom.str =>
    show Outcome.cls (match rx a b with
      | none => .err .oracleMiss | some none => .err .regex | some (some m) => boolV m) = .other
    rcases rx a b with _ | _ | m <;> rfl
  case add.atom.int.atom.int => exact checkedInt_cls _
  case sub.atom.int.atom.int => exact checkedInt_cls _
  case mul.atom.int.atom.int => exact checkedInt_cls _
  case div.atom.int.atom.int =>
    show Outcome.cls (if b = 0 then .err .divzero else match dv with
      | .exact => checkedInt (Int.tdiv a b)
      | .pinned => .ok (.atom (.int (wrapI64 (Int.tdiv a b))))) = .other
    split
    · rfl
    · cases dv
      · exact checkedInt_cls _
      · rfl
  all_goals exact rfl

theorem evalBinary_no_panic (cfg : EvalCfg) (hs : cfg.sets = .loops) (op : BinOp) (l r : Val) :
    (evalBinary cfg op l r).isPanic = false := by
  obtain ⟨rx, dv, sets⟩ := cfg
  cases hs
  apply Outcome.isPanic_of_cls
  rw [evalBinary_cls]
  cases C06.accepts op l.type r.type <;> nofun

theorem evalUnary_table (op : UnOp) (v : Val) :
    (evalUnary op v).isOk = C06.acceptsUnary op v.type ∧
      (evalUnary op v).cls = bif C06.acceptsUnary op v.type then .other else .typeErr := by
  cases op <;> rcases v with (a | a | a | a | a) | s <;> exact ⟨rfl, rfl⟩

theorem evalUnary_no_panic (u : UnOp) (v : Val) : (evalUnary u v).isPanic = false := by
  apply Outcome.isPanic_of_cls
  rw [(evalUnary_table u v).2]
  cases C06.acceptsUnary u v.type <;> nofun

theorem push_no_panic (st : List Val) (v : Val) : (push st v).isPanic = false := by
  unfold push; split <;> rfl

theorem stepOp_no_panic (cfg : EvalCfg) (hs : cfg.sets = .loops) (σ : Bindings Val)
    (st : List Val) (op : Op) : (stepOp cfg σ st op).isPanic = false := by
  cases op with
  | value t =>
    cases t with
    | const v => exact push_no_panic st v
    | var n =>
      simp only [stepOp]
      split
      · rfl
      · exact push_no_panic st _
  | unary u =>
    cases st with
    | nil => rfl
    | cons v rest =>
      exact Outcome.isPanic_bind (evalUnary_no_panic u v) (push_no_panic rest)
  | binary b =>
    match st with
    | [] => rfl
    | [_] => rfl
    | r :: l :: rest =>
      exact Outcome.isPanic_bind (evalBinary_no_panic cfg hs b l r) (push_no_panic rest)

theorem runOps_no_panic (cfg : EvalCfg) (hs : cfg.sets = .loops) (σ : Bindings Val)
    (ops : List Op) : ∀ st, (runOps cfg σ ops st).isPanic = false := by
  induction ops with
  | nil => intro st; rfl
  | cons op ops ih =>
    intro st
    exact Outcome.isPanic_bind (stepOp_no_panic cfg hs σ st op) ih

theorem push_ok {st st1 : List Val} {v : Val} (h : push st v = .ok st1) :
    st.length < maxStackSize ∧ st1 = v :: st := by
  unfold push at h
  split at h
  · cases h
  · cases h; exact ⟨by omega, rfl⟩

namespace C06

/-- Stack depth after running `ops` from depth `d`, `none` when the machine would
underflow or exceed `maxStackSize`. -/
def depthAfter : List Op → Nat → Option Nat
  | [], d => some d
  | .value _ :: ops, d => if d ≥ maxStackSize then none else depthAfter ops (d + 1)
  | .unary _ :: ops, d => if d = 0 then none else depthAfter ops d
  | .binary _ :: ops, d => if d < 2 then none else depthAfter ops (d - 1)

end C06

open C06 (depthAfter)

theorem stepOp_ok_depth (cfg : EvalCfg) (σ : Bindings Val) (ops : List Op) {st st1 : List Val}
    {op : Op} (h : stepOp cfg σ st op = .ok st1) :
    depthAfter (op :: ops) st.length = depthAfter ops st1.length := by
  cases op with
  | value t =>
    have hp : ∃ v, push st v = .ok st1 := by
      cases t with
      | const v => exact ⟨v, h⟩
      | var n =>
        simp only [stepOp] at h
        split at h
        · cases h
        · exact ⟨_, h⟩
    obtain ⟨v, hv⟩ := hp
    obtain ⟨hl, rfl⟩ := push_ok hv
    have : ¬ st.length ≥ maxStackSize := by omega
    simp [depthAfter, this]
  | unary u =>
    cases st with
    | nil => cases h
    | cons v rest =>
      obtain ⟨w, _, hw⟩ := Outcome.bind_eq_ok h
      obtain ⟨_, rfl⟩ := push_ok hw
      simp [depthAfter]
  | binary b =>
    match st, h with
    | [], h => cases h
    | [_], h => cases h
    | r :: l :: rest, h =>
      obtain ⟨w, _, hw⟩ := Outcome.bind_eq_ok h
      obtain ⟨_, rfl⟩ := push_ok hw
      have : ¬ (rest.length + 1 + 1 < 2) := by omega
      simp [depthAfter, this]

theorem runOps_ok_depth (cfg : EvalCfg) (σ : Bindings Val) (ops : List Op) :
    ∀ st st', runOps cfg σ ops st = .ok st' → depthAfter ops st.length = some st'.length := by
  induction ops with
  | nil => intro st st' h; cases h; rfl
  | cons op ops ih =>
    intro st st' h
    obtain ⟨st1, h1, h2⟩ := Outcome.bind_eq_ok h
    rw [stepOp_ok_depth cfg σ ops h1]
    exact ih st1 st' h2

theorem eval_no_panic' (cfg : EvalCfg) (hs : cfg.sets = .loops) (σ : Bindings Val) (e : Expr) :
    (eval cfg σ e).isPanic = false := by
  refine Outcome.isPanic_bind (runOps_no_panic cfg hs σ e []) ?_
  intro st
  match st with
  | [] => rfl
  | [_] => rfl
  | _ :: _ :: _ => rfl

theorem runOps_append (cfg : EvalCfg) (σ : Bindings Val) (a b : List Op) :
    ∀ st, runOps cfg σ (a ++ b) st = (runOps cfg σ a st).bind (runOps cfg σ b) := by
  induction a with
  | nil => intro st; rfl
  | cons op a ih =>
    intro st
    simp only [List.cons_append, runOps]
    cases stepOp cfg σ st op with
    | ok st1 => exact ih st1
    | err e => rfl
    | panic s => rfl

theorem stepOp_unbound (cfg : EvalCfg) (σ : Bindings Val) (n : Bytes) (h : σ.lookup n = none)
    (st : List Val) : stepOp cfg σ st (.value (.var n)) = .err .unknownVar := by
  simp [stepOp, h]

/-- Pigeonhole: an `x ∈ t` outside `s` would make `x :: s` a duplicate-free list inside `t`
and longer than `t`. -/
theorem subset_of_nodup_of_length_le {s t : List Atom} (hs : s.Nodup) (hst : ∀ x ∈ s, x ∈ t)
    (hl : t.length ≤ s.length) : ∀ x ∈ t, x ∈ s := by
  intro x hx
  refine Decidable.byContradiction fun hxs => ?_
  have := (List.nodup_cons.mpr ⟨hxs, hs⟩).length_le_of_subset (l₂ := t) fun y hy => by
    rcases List.mem_cons.mp hy with rfl | hy
    · exact hx
    · exact hst y hy
  rw [List.length_cons] at this
  omega

theorem setEqual_iff (s t : List Atom) :
    setEqual s t = true ↔ s.length = t.length ∧ (∀ x ∈ s, x ∈ t) ∧ (∀ x ∈ t, x ∈ s) := by
  simp [setEqual, and_assoc]

theorem checkedInt_eq (x : Int) :
    checkedInt x = if inI64 x then .ok (.atom (.int x)) else .err .overflow := rfl

theorem wrapI64_of_inI64 (x : Int) (h : inI64 x = true) : wrapI64 x = x := by
  rw [inI64_iff] at h
  unfold wrapI64
  rw [BitVec.toInt_ofInt]
  apply Int.bmod_eq_of_le <;> simp [i64Min, i64Max] at h ⊢ <;> omega

theorem toInt_ofInt_of_inI64 (x : Int) (h : inI64 x = true) : (BitVec.ofInt 64 x).toInt = x :=
  wrapI64_of_inI64 x h

theorem tdiv_inI64 (a b : Int) (ha : inI64 a = true) (hb0 : b ≠ 0)
    (h : ¬ (a = i64Min ∧ b = -1)) : inI64 (Int.tdiv a b) = true := by
  rw [inI64_iff] at ha ⊢
  simp only [i64Min, i64Max] at ha h ⊢
  have hq := Int.natAbs_tdiv a b
  have hle : (Int.tdiv a b).natAbs ≤ a.natAbs := by
    rw [hq]; exact Nat.div_le_self _ _
  by_cases h1 : b.natAbs = 1
  · have hb : b = 1 ∨ b = -1 := by omega
    rcases hb with rfl | rfl
    · simp; omega
    · have : a ≠ -9223372036854775808 := fun e => h ⟨e, rfl⟩
      simp; omega
  · have h2 : 1 < b.natAbs := by omega
    by_cases ha0 : a.natAbs = 0
    · have : a = 0 := by omega
      subst this; simp
    · have : (Int.tdiv a b).natAbs < a.natAbs := by
        rw [hq]; exact Nat.div_lt_self (by omega) h2
      omega

theorem intMin64_toInt : (BitVec.intMin 64).toInt = i64Min := by decide

theorem negOne64_toInt : (-1#64 : BitVec 64).toInt = -1 := by decide

theorem machine_div_guard (a b : Int) (ha : inI64 a = true) (hb : inI64 b = true)
    (h : ¬ (a = i64Min ∧ b = -1)) :
    BitVec.ofInt 64 a ≠ BitVec.intMin 64 ∨ BitVec.ofInt 64 b ≠ -1#64 := by
  by_cases h1 : a = i64Min
  · right
    intro e
    have := congrArg BitVec.toInt e
    rw [toInt_ofInt_of_inI64 b hb, negOne64_toInt] at this
    exact h ⟨h1, this⟩
  · left
    intro e
    have := congrArg BitVec.toInt e
    rw [toInt_ofInt_of_inI64 a ha, intMin64_toInt] at this
    exact h1 this

end Biscuit
