/-
Proofs/Decision — helper lemmas for C04: the evaluation-order model computes the
declarative decision procedure inside the specified fragment. The runs compute the scopes
(`runWorld_spec`), the list walks the declarative conditions (`mem_failedChecks`,
`firstPolicy_some_iff`), and `authorize_frag` / `authorize_policy_iff` put them together.
`C04.AllChecksHold` is declared here, not in Props/C04, because `authorize_frag` is stated with it.
-/
import BiscuitModel.Spec.Decision
import BiscuitModel.Proofs.Authorizer

namespace Biscuit

theorem DerivableP.mono {cfg : EvalCfg} {P P' : List DRule} {B B' : DFact → Prop}
    (hP : ∀ r ∈ P, r ∈ P') (h : ∀ f, B f → B' f) :
    ∀ f, DerivableP cfg P B f → DerivableP cfg P' B' f := by
  intro f hd
  induction hd with
  | base hf => exact DerivableP.base (h _ hf)
  | rule hr hsome _ hdom hex hhead ih => exact DerivableP.rule (hP _ hr) hsome ih hdom hex hhead

theorem DerivableP.congr {cfg : EvalCfg} {P : List DRule} {B B' : DFact → Prop}
    (h : ∀ f, B f ↔ B' f) (f : DFact) : DerivableP cfg P B f ↔ DerivableP cfg P B' f :=
  ⟨DerivableP.mono (fun _ hr => hr) (fun g => (h g).mp) f,
   DerivableP.mono (fun _ hr => hr) (fun g => (h g).mpr) f⟩

theorem derivable_iff_derivableP (cfg : EvalCfg) (P : List DRule) (F : List DFact) (f : DFact) :
    Derivable (evalBool cfg) P F f ↔ DerivableP cfg P (fun g => g ∈ F) f := by
  constructor
  · intro hd
    induction hd with
    | base hf => exact DerivableP.base hf
    | rule hr hsome _ hdom hex hhead ih => exact DerivableP.rule hr hsome ih hdom hex hhead
  · intro hd
    induction hd with
    | base hf => exact Derivable.base hf
    | rule hr hsome _ hdom hex hhead ih => exact Derivable.rule hr hsome ih hdom hex hhead

theorem runWorld_spec (cfg : EvalCfg) (lim : Limits) (W w : World)
    (h : runWorld cfg lim W = (w, none)) (f : DFact) :
    f ∈ w.facts ↔ DerivableP cfg W.rules (fun g => g ∈ W.facts) f := by
  obtain ⟨hrun, _⟩ := runWorld_run cfg lim W w none h
  rw [← derivable_iff_derivableP]
  exact ⟨run_sound _ (evalBool_respects cfg) _ _ _ _ _ hrun f,
         run_complete _ (evalBool_respects cfg) _ _ _ _ _ hrun f⟩

theorem authorityRun_spec (cfg : EvalCfg) (A : Block) (s : AuthState) (w : World)
    (h : runWorld cfg s.limits
      { facts := insertAll s.world.facts A.facts, rules := s.world.rules ++ A.rules } = (w, none))
    (f : DFact) : f ∈ w.facts ↔ authorityScope cfg A s f := by
  rw [runWorld_spec cfg _ _ _ h f]
  unfold authorityScope
  exact DerivableP.congr (fun g => mem_insertAll _ _ g) f

theorem blockRun_spec (cfg : EvalCfg) (A : Block) (s : AuthState) (lim : Limits) (b : Block)
    (base : List DFact) (hbase : ∀ f, f ∈ base ↔ authorityScope cfg A s f) (wb : World)
    (h : runWorld cfg lim { facts := insertAll base b.facts, rules := b.rules } = (wb, none))
    (f : DFact) : f ∈ wb.facts ↔ blockScope cfg A s b f := by
  rw [runWorld_spec cfg _ _ _ h f]
  unfold blockScope
  refine DerivableP.congr (fun g => ?_) f
  show g ∈ insertAll base b.facts ↔ _
  rw [mem_insertAll, hbase]

theorem QHolds.mono {cfg : EvalCfg} {M M' : DFact → Prop} (h : ∀ f, M f → M' f) {q : DRule} :
    QHolds cfg M q → QHolds cfg M' q := by
  rintro ⟨σ, f, hb, rest⟩
  exact ⟨σ, f, fun p hp => (hb p hp).imp fun g hg => ⟨hg.1, h g hg.2⟩, rest⟩

theorem QHolds.congr {cfg : EvalCfg} {M M' : DFact → Prop} (h : ∀ f, M f ↔ M' f) (q : DRule) :
    QHolds cfg M q ↔ QHolds cfg M' q :=
  ⟨QHolds.mono fun f => (h f).mp, QHolds.mono fun f => (h f).mpr⟩

theorem exists_QHolds_congr {cfg : EvalCfg} {M M' : DFact → Prop} (h : ∀ f, M f ↔ M' f)
    (qs : List DRule) : (∃ q ∈ qs, QHolds cfg M q) ↔ ∃ q ∈ qs, QHolds cfg M' q :=
  exists_congr fun q => and_congr_right fun _ => QHolds.congr h q

theorem CheckHolds.congr {cfg : EvalCfg} {M M' : DFact → Prop} (h : ∀ f, M f ↔ M' f) (c : Check) :
    CheckHolds cfg M c ↔ CheckHolds cfg M' c :=
  exists_QHolds_congr h c.queries

theorem PolicyHolds.congr {cfg : EvalCfg} {M M' : DFact → Prop} (h : ∀ f, M f ↔ M' f) (p : Policy) :
    PolicyHolds cfg M p ↔ PolicyHolds cfg M' p :=
  exists_QHolds_congr h p.queries

theorem queryHolds_iff (cfg : EvalCfg) (W : List DFact) (q : DRule)
    (h : (applyRule (evalBool cfg) q W []).2 = none) :
    queryHolds cfg W q = true ↔ QHolds cfg (fun g => g ∈ W) q := by
  unfold queryHolds QHolds
  rw [Bool.not_eq_true', List.isEmpty_eq_false_iff_exists_mem]
  simp only [mem_queryRule _ (evalBool_respects cfg) q W h]
  constructor
  · rintro ⟨f, σ, hsat, hhead⟩
    exact ⟨σ, f, hsat.body, hsat.dom, hsat.exprs, hhead⟩
  · rintro ⟨σ, f, hb, hdom, hex, hhead⟩
    exact ⟨f, σ, ⟨hb, hdom, hex⟩, hhead⟩

theorem any_queryHolds_iff (cfg : EvalCfg) (W : List DFact) (M : DFact → Prop)
    (hM : ∀ f, f ∈ W ↔ M f) (qs : List DRule)
    (h : ∀ q ∈ qs, (applyRule (evalBool cfg) q W []).2 = none) :
    qs.any (queryHolds cfg W) = true ↔ ∃ q ∈ qs, QHolds cfg M q := by
  rw [List.any_eq_true]
  exact exists_congr fun q => and_congr_right fun hq =>
    (queryHolds_iff cfg W q (h q hq)).trans (QHolds.congr hM q)

theorem checkHolds_iff (cfg : EvalCfg) (W : List DFact) (M : DFact → Prop)
    (hM : ∀ f, f ∈ W ↔ M f) (c : Check)
    (h : ∀ q ∈ c.queries, (applyRule (evalBool cfg) q W []).2 = none) :
    checkHolds cfg W c = true ↔ CheckHolds cfg M c :=
  any_queryHolds_iff cfg W M hM c.queries h

theorem mem_failedChecks (cfg : EvalCfg) (W : List DFact) (M : DFact → Prop)
    (hM : ∀ f, f ∈ W ↔ M f) (mk : Nat → CheckId) (cs : List Check)
    (h : ∀ c ∈ cs, ∀ q ∈ c.queries, (applyRule (evalBool cfg) q W []).2 = none)
    (id : CheckId) :
    id ∈ failedChecks cfg W mk cs ↔
      ∃ j, id = mk j ∧ ∃ c, cs[j]? = some c ∧ ¬ CheckHolds cfg M c := by
  have hc : ∀ j c, cs[j]? = some c → (checkHolds cfg W c = true ↔ CheckHolds cfg M c) :=
    fun j c hj => checkHolds_iff cfg W M hM c (h c (List.mem_of_getElem? hj))
  simp only [failedChecks, failedFrom_eq, List.mem_filterMap, Prod.exists,
    List.mk_mem_zipIdx_iff_getElem?]
  constructor
  · rintro ⟨c, j, hj, hif⟩
    split at hif
    · cases hif
    · next hn => exact ⟨j, (Option.some.inj hif).symm, c, hj, fun hh => hn ((hc j c hj).mpr hh)⟩
  · rintro ⟨j, rfl, c, hj, hn⟩
    exact ⟨c, j, hj, if_neg fun hh => hn ((hc j c hj).mp hh)⟩

theorem firstPolicy_some_iff (cfg : EvalCfg) (W : List DFact) (M : DFact → Prop)
    (hM : ∀ f, f ∈ W ↔ M f) (k : PolicyKind) (ps : List Policy)
    (h : ∀ p ∈ ps, ∀ q ∈ p.queries, (applyRule (evalBool cfg) q W []).2 = none) :
    firstPolicy cfg W ps = some k ↔ FirstPolicyIs cfg M ps k := by
  have hp : ∀ p ∈ ps, p.queries.any (queryHolds cfg W) = true ↔ PolicyHolds cfg M p :=
    fun p hp => any_queryHolds_iff cfg W M hM p.queries (h p hp)
  -- `FirstPolicyIs` is the right side of `List.find?_eq_some_iff_append`
  rw [firstPolicy_eq_find, Option.map_eq_some_iff]
  constructor
  · rintro ⟨p, hfind, rfl⟩
    obtain ⟨hpp, pre, post, rfl, hpre⟩ := List.find?_eq_some_iff_append.mp hfind
    refine ⟨pre, p, post, rfl, rfl, (hp p (by simp)).mp hpp, fun a ha hc => ?_⟩
    have := hpre a ha
    rw [(hp a (by simp [ha])).mpr hc] at this
    cases this
  · rintro ⟨pre, p, post, rfl, hk, hholds, hpre⟩
    refine ⟨p, List.find?_eq_some_iff_append.mpr
      ⟨(hp p (by simp)).mpr hholds, pre, post, rfl, fun a ha => ?_⟩, hk⟩
    cases hb : a.queries.any (queryHolds cfg W) with
    | false => rfl
    | true => exact absurd ((hp a (by simp [ha])).mp hb) (hpre a ha)

theorem firstPolicy_none_iff (cfg : EvalCfg) (W : List DFact) (M : DFact → Prop)
    (hM : ∀ f, f ∈ W ↔ M f) (ps : List Policy)
    (h : ∀ p ∈ ps, ∀ q ∈ p.queries, (applyRule (evalBool cfg) q W []).2 = none) :
    firstPolicy cfg W ps = none ↔ ∀ p ∈ ps, ¬ PolicyHolds cfg M p := by
  rw [firstPolicy_eq_find, Option.map_eq_none_iff, List.find?_eq_none]
  exact forall_congr' fun p => forall_congr' fun hp =>
    not_congr (any_queryHolds_iff cfg W M hM p.queries (h p hp))

/-- The conclusion of `WithinFragment.blockRuns`, with the authority-level facts as a parameter. -/
def BlocksComplete (cfg : EvalCfg) (lim : Limits) (base : List DFact) (bs : List Block) : Prop :=
  ∀ b ∈ bs, ∃ wb, runWorld cfg lim { facts := insertAll base b.facts, rules := b.rules } = (wb, none) ∧
    ∀ c ∈ b.checks, ∀ q ∈ c.queries, (applyRule (evalBool cfg) q wb.facts []).2 = none

theorem blockPhase_spec (cfg : EvalCfg) (A : Block) (s : AuthState) (lim : Limits)
    (base : List DFact) (hbase : ∀ f, f ∈ base ↔ authorityScope cfg A s f) :
    ∀ (bs : List Block) (idx : Nat) (acc : List CheckId), BlocksComplete cfg lim base bs →
    ∃ out, blockPhase cfg lim base bs idx acc = .ok out ∧
      ∀ id, id ∈ out ↔ id ∈ acc ∨
        ∃ k j, id = CheckId.block (idx + k) j ∧ ∃ b c, bs[k]? = some b ∧ b.checks[j]? = some c ∧
          ¬ CheckHolds cfg (blockScope cfg A s b) c
  | [], idx, acc, _ => by
    refine ⟨acc, rfl, fun id => ?_⟩
    simp
  | b :: bs, idx, acc, h => by
    obtain ⟨wb, hrun, hq⟩ := h b (List.mem_cons_self ..)
    have hscope := blockRun_spec cfg A s lim b base hbase wb hrun
    have hev := evalBlock_of_run cfg lim base b idx wb hrun
    obtain ⟨out, hout, hmem⟩ := blockPhase_spec cfg A s lim base hbase bs (idx + 1)
      (acc ++ failedChecks cfg wb.facts (CheckId.block idx) b.checks)
      (fun b' hb' => h b' (List.mem_cons_of_mem _ hb'))
    refine ⟨out, ?_, fun id => ?_⟩
    · simp only [blockPhase, hev]
      exact hout
    · rw [hmem id, List.mem_append,
        mem_failedChecks cfg wb.facts _ hscope (CheckId.block idx) b.checks hq id]
      constructor
      · rintro ((h1 | ⟨j, hid, c, hj, hc⟩) | ⟨k, j, hid, b', c, hk, hj, hc⟩)
        · exact Or.inl h1
        · exact Or.inr ⟨0, j, by simpa using hid, b, c, by simp, hj, hc⟩
        · exact Or.inr ⟨k + 1, j, by rw [hid]; congr 1; omega, b', c, by simpa using hk, hj, hc⟩
      · rintro (h1 | ⟨k, j, hid, b', c, hk, hj, hc⟩)
        · exact Or.inl (Or.inl h1)
        · cases k with
          | zero =>
            simp only [List.getElem?_cons_zero, Option.some.injEq] at hk
            subst hk
            exact Or.inl (Or.inr ⟨j, by simpa using hid, c, hj, hc⟩)
          | succ k =>
            simp only [List.getElem?_cons_succ] at hk
            exact Or.inr ⟨k, j, by rw [hid]; congr 1; omega, b', c, hk, hj, hc⟩

/-- The identifiers of the checks that do not hold, declaratively. -/
def FailingId (cfg : EvalCfg) (tok : Token) (s : AuthState) : CheckId → Prop
  | .authorizer j =>
    ∃ c, s.checks[j]? = some c ∧ ¬ CheckHolds cfg (authorityScope cfg tok.authority s) c
  | .block 0 j =>
    ∃ c, tok.authority.checks[j]? = some c ∧ ¬ CheckHolds cfg (authorityScope cfg tok.authority s) c
  | .block (k + 1) j =>
    ∃ b c, tok.blocks[k]? = some b ∧ b.checks[j]? = some c ∧
      ¬ CheckHolds cfg (blockScope cfg tok.authority s b) c

namespace C04

/-- All checks hold: the authorizer's and the authority block's in the authority scope,
each later block's in that block's scope. -/
def AllChecksHold (cfg : EvalCfg) (tok : Token) (s : AuthState) : Prop :=
  (∀ c ∈ s.checks, CheckHolds cfg (authorityScope cfg tok.authority s) c) ∧
  (∀ c ∈ tok.authority.checks, CheckHolds cfg (authorityScope cfg tok.authority s) c) ∧
  (∀ b ∈ tok.blocks, ∀ c ∈ b.checks, CheckHolds cfg (blockScope cfg tok.authority s b) c)

end C04

theorem no_failing_iff (cfg : EvalCfg) (tok : Token) (s : AuthState) :
    (∀ id, ¬ FailingId cfg tok s id) ↔ C04.AllChecksHold cfg tok s := by
  constructor
  · intro h
    refine ⟨fun c hc => ?_, fun c hc => ?_, fun b hb c hc => ?_⟩
    · obtain ⟨j, hj⟩ := List.mem_iff_getElem?.mp hc
      exact Classical.byContradiction fun hn => h (.authorizer j) ⟨c, hj, hn⟩
    · obtain ⟨j, hj⟩ := List.mem_iff_getElem?.mp hc
      exact Classical.byContradiction fun hn => h (.block 0 j) ⟨c, hj, hn⟩
    · obtain ⟨k, hk⟩ := List.mem_iff_getElem?.mp hb
      obtain ⟨j, hj⟩ := List.mem_iff_getElem?.mp hc
      exact Classical.byContradiction fun hn => h (.block (k + 1) j) ⟨b, c, hk, hj, hn⟩
  · rintro ⟨h1, h2, h3⟩ (j | ⟨_ | k, j⟩)
    · rintro ⟨c, hj, hn⟩; exact hn (h1 c (List.mem_of_getElem? hj))
    · rintro ⟨c, hj, hn⟩; exact hn (h2 c (List.mem_of_getElem? hj))
    · rintro ⟨b, c, hk, hj, hn⟩
      exact hn (h3 b (List.mem_of_getElem? hk) c (List.mem_of_getElem? hj))

/-- Inside the fragment, `authorize` reports the failing checks if there are any and
otherwise the kind of the first policy satisfied in the authority-level world. -/
theorem authorize_frag (cfg : EvalCfg) (tok : Token) (s : AuthState)
    (hf : WithinFragment cfg tok s) :
    ∃ (w : World) (ids : List CheckId),
      (∀ f, f ∈ w.facts ↔ authorityScope cfg tok.authority s f) ∧
      (∀ p ∈ s.policies, ∀ q ∈ p.queries, (applyRule (evalBool cfg) q w.facts []).2 = none) ∧
      (authorize cfg tok s).2 = finish (firstPolicy cfg w.facts s.policies) (.ok ids) ∧
      (∀ id, id ∈ ids ↔ FailingId cfg tok s id) ∧ (ids = [] ↔ C04.AllChecksHold cfg tok s) := by
  obtain ⟨w, hw⟩ := hf.authorityRun
  obtain ⟨hqc, hqp⟩ := hf.authorityQueries w hw
  have hscope := authorityRun_spec cfg tok.authority s w hw
  obtain ⟨out, hout, hmem⟩ := blockPhase_spec cfg tok.authority s s.limits w.facts hscope
    tok.blocks 1
    (failedChecks cfg w.facts CheckId.authorizer s.checks ++
      failedChecks cfg w.facts (CheckId.block 0) tok.authority.checks)
    (hf.blockRuns w hw)
  have hmem' : ∀ id, id ∈ out ↔ FailingId cfg tok s id := by
    intro id
    rw [hmem id, List.mem_append,
      mem_failedChecks cfg w.facts _ hscope CheckId.authorizer s.checks
        (fun c hc => hqc c (List.mem_append_left _ hc)) id,
      mem_failedChecks cfg w.facts _ hscope (CheckId.block 0) tok.authority.checks
        (fun c hc => hqc c (List.mem_append_right _ hc)) id]
    -- each shape of identifier occurs in exactly one of the three parts
    rcases id with i | ⟨_ | k, i⟩ <;>
      simp only [FailingId, CheckId.authorizer.injEq, CheckId.block.injEq, reduceCtorEq, Nat.add_comm 1,
        Nat.add_right_cancel_iff, Nat.right_eq_add, Nat.add_eq_zero_iff, Nat.succ_ne_self,
        exists_eq_left', exists_and_left, exists_const, and_assoc, true_and, false_and, and_false,
        or_false, false_or, or_self]
  refine ⟨w, out, hscope, hqp, ?_, hmem',
    (List.eq_nil_iff_forall_not_mem.trans (forall_congr' fun id => not_congr (hmem' id))).trans
      (no_failing_iff cfg tok s)⟩
  rw [authorize_snd_of_run cfg tok s w hw, hout]

theorem authorize_policy_iff (cfg : EvalCfg) (tok : Token) (s : AuthState)
    (hf : WithinFragment cfg tok s) :
    ∃ w : World, (∀ f, f ∈ w.facts ↔ authorityScope cfg tok.authority s f) ∧
      (∀ p ∈ s.policies, ∀ q ∈ p.queries, (applyRule (evalBool cfg) q w.facts []).2 = none) ∧
      ∀ o, (authorize cfg tok s).2 = policyVerdict o ↔
        C04.AllChecksHold cfg tok s ∧ firstPolicy cfg w.facts s.policies = o := by
  obtain ⟨w, ids, hscope, hqp, hv, _, hnil⟩ := authorize_frag cfg tok s hf
  refine ⟨w, hscope, hqp, fun o => ?_⟩
  rw [hv, finish_eq_policyVerdict, ← hnil, Except.ok.injEq]

end Biscuit
