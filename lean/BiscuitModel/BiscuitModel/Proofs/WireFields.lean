/-
Proofs/WireFields — the generic protobuf layer of Model/Wire, for both schema files
(Proofs/WireRoundtrip: block content and snapshots; Proofs/WireEnvelope: the envelope).

* Varints and field lists round-trip exactly: decoding an encoding yields the fields with
  varints reduced mod 2^64 when every varint and every length is below 2^70 (ten varint
  bytes), and fails otherwise (`decodeFields_encode`); for well-formed fields it is the
  identity (`decodeFields_encode_WF`).
* The three accessors are `filterMap`s (`lastBytes_eq`, `lastVarint_eq`), so on an encoder's
  output — built from `++`, `::`, `map`, `optV`, `optB` — they are computed by `simp`.
* Sizes: a message shorter than 2^64 bytes (`Fits`) has only shorter nested messages
  (`Fits.nested`), and its fields are well-formed, hence small, once their numbers and varints
  are in range (`Fits.fieldWF`, `Fits.all_small`).
-/
import BiscuitModel.Spec.WireWF
import BiscuitModel.Proofs.ListOption

namespace Biscuit.Wire
open Biscuit

theorem encodeVarint_lt (n : Nat) (h : n < 128) : encodeVarint n = [UInt8.ofNat n] := by
  rw [encodeVarint, dif_pos h]

theorem encodeVarint_ge (n : Nat) (h : ¬ n < 128) :
    encodeVarint n = UInt8.ofNat (n % 128 + 128) :: encodeVarint (n / 128) := by
  rw [encodeVarint, dif_neg h]

theorem encodeVarint_ne_nil (n : Nat) : encodeVarint n ≠ [] := by
  by_cases h : n < 128
  · simp [encodeVarint_lt n h]
  · simp [encodeVarint_ge n h]

theorem decodeVarintAux_encode_succ (k n : Nat) (rest : Bytes) :
    decodeVarintAux (k + 1) (encodeVarint n ++ rest) =
      if n < 128 then some (n, rest)
      else (decodeVarintAux k (encodeVarint (n / 128) ++ rest)).map fun p => (n % 128 + 128 * p.1, p.2) := by
  by_cases h : n < 128
  · rw [encodeVarint_lt n h, if_pos h, List.singleton_append, decodeVarintAux, UInt8.toNat_ofNat_of_lt' (show _ < 256 by omega), if_pos h]
  · have h2 : ¬ (n % 128 + 128 < 128) := by omega
    rw [encodeVarint_ge n h, if_neg h, List.cons_append, decodeVarintAux, UInt8.toNat_ofNat_of_lt' (show _ < 256 by omega), if_neg h2,
      Nat.add_sub_cancel]
    cases decodeVarintAux k (encodeVarint (n / 128) ++ rest) <;> rfl

theorem decodeVarintAux_encode (k n : Nat) (rest : Bytes) :
    decodeVarintAux (k + 1) (encodeVarint n ++ rest) =
      if n < 2 ^ (7 * (k + 1)) then some (n, rest) else none := by
  induction k generalizing n with
  | zero =>
    rw [decodeVarintAux_encode_succ]
    by_cases h : n < 128
    · rw [if_pos h, if_pos h]
    · rw [if_neg h, if_neg h]; rfl
  | succ k ih =>
    have hpow : 2 ^ (7 * (k + 1 + 1)) = 2 ^ (7 * (k + 1)) * 128 := by
      rw [show 7 * (k + 1 + 1) = 7 * (k + 1) + 7 by omega, Nat.pow_add]
    have h128 : 128 ≤ 2 ^ (7 * (k + 1 + 1)) := by
      rw [hpow]; exact Nat.le_mul_of_pos_left _ (Nat.pow_pos (by decide))
    rw [decodeVarintAux_encode_succ, ih, hpow]
    by_cases h : n < 128
    · rw [if_pos h, if_pos (by omega)]
    · rw [if_neg h]
      by_cases hs : n / 128 < 2 ^ (7 * (k + 1))
      · rw [if_pos hs, if_pos ((Nat.div_lt_iff_lt_mul (by decide)).mp hs)]
        exact congrArg (fun m => some (m, rest)) (by omega)
      · rw [if_neg hs, if_neg (fun c => hs ((Nat.div_lt_iff_lt_mul (by decide)).mpr c))]; rfl

theorem decodeVarint_encode (n : Nat) (rest : Bytes) :
    decodeVarint (encodeVarint n ++ rest) = if n < 2 ^ 70 then some (n, rest) else none := by
  exact decodeVarintAux_encode 9 n rest

/-- What the decoder returns for an encoded field: varints reduced mod 2^64. -/
def normField (f : Field) : Field :=
  match f.val with
  | .varint n => { num := f.num, val := .varint (n % 2^64) }
  | .bytes _ => f

/-- The field's varint / length fits ten varint bytes. -/
def smallField (f : Field) : Bool :=
  match f.val with
  | .varint n => decide (n < 2^70)
  | .bytes b => decide (b.length < 2^70)

theorem encodeField_ne_nil (f : Field) : encodeField f ≠ [] := by
  obtain ⟨num, val⟩ := f
  -- in both cases the encoding starts with the tag's varint
  cases val <;> simp only [encodeField, List.append_assoc] <;>
    exact List.append_ne_nil_of_left_ne_nil (encodeVarint_ne_nil _) _

theorem encodeField_length_pos (f : Field) : 0 < (encodeField f).length :=
  List.length_pos_iff.mpr (encodeField_ne_nil f)

theorem encodeFields_cons (f : Field) (fs : List Field) :
    encodeFields (f :: fs) = encodeField f ++ encodeFields fs := by
  simp [encodeFields]

theorem encodeFields_append (fs gs : List Field) :
    encodeFields (fs ++ gs) = encodeFields fs ++ encodeFields gs := by
  simp [encodeFields]

theorem encodeFields_nil : encodeFields [] = [] := rfl

/-- `2^60`: any bound that keeps the tag `8 * num + 2` below `2^70` (ten varint bytes); the
callers have literal field numbers or `num < 2^29` (`FieldWF`). -/
theorem decodeFieldsAux_step (fuel : Nat) (f : Field) (rest : Bytes) (hnum : f.num < 2^60) :
    decodeFieldsAux (fuel + 1) (encodeField f ++ rest) =
      if smallField f then (decodeFieldsAux fuel rest).map (normField f :: ·) else none := by
  have hne : encodeField f ++ rest ≠ [] := by simp [encodeField_ne_nil f]
  -- the third equation of `decodeFieldsAux`: fuel left, input not empty
  rw [decodeFieldsAux.eq_3 _ _ hne]
  obtain ⟨num, val⟩ := f
  cases val with
  | varint n =>
    have htag : num * 8 < 2 ^ 70 := by simp at hnum; omega
    simp only [encodeField, List.append_assoc, decodeVarint_encode, htag, if_true]
    have h0 : num * 8 % 8 = 0 := by omega
    have h1 : num * 8 / 8 = num := by omega
    simp only [h0, h1, if_true]
    by_cases hn : n < 2 ^ 70
    · simp only [hn, if_true, smallField, decide_true, normField]
      cases decodeFieldsAux fuel rest <;> rfl
    · simp [hn, smallField]
  | bytes b =>
    have htag : num * 8 + 2 < 2 ^ 70 := by simp at hnum; omega
    simp only [encodeField, List.append_assoc, decodeVarint_encode, htag, if_true]
    have h2 : (num * 8 + 2) % 8 = 2 := by omega
    have h1 : (num * 8 + 2) / 8 = num := by omega
    simp only [h1, h2, if_true]
    by_cases hn : b.length < 2 ^ 70
    · have hle : b.length ≤ (b ++ rest).length := by simp
      simp only [hn, if_true, smallField, decide_true, normField, hle,
        List.drop_left' rfl, List.take_left' rfl]
      cases decodeFieldsAux fuel rest <;> rfl
    · simp [hn, smallField]

theorem decodeFieldsAux_encode (fs : List Field) (hnum : ∀ f ∈ fs, f.num < 2^60) (fuel : Nat)
    (hfuel : (encodeFields fs).length ≤ fuel) :
    decodeFieldsAux fuel (encodeFields fs) =
      if fs.all smallField then some (fs.map normField) else none := by
  induction fs generalizing fuel with
  | nil => cases fuel <;> simp [encodeFields_nil, decodeFieldsAux]
  | cons f fs ih =>
    rw [encodeFields_cons] at hfuel ⊢
    have hpos := encodeField_length_pos f
    rw [List.length_append] at hfuel
    cases fuel with
    | zero => omega
    | succ fuel =>
      rw [decodeFieldsAux_step _ _ _ (hnum f (by simp)),
        ih (fun g hg => hnum g (by simp [hg])) fuel (by omega), List.all_cons]
      cases smallField f <;> cases fs.all smallField <;> rfl

theorem decodeFields_encode (fs : List Field) (hnum : ∀ f ∈ fs, f.num < 2^60) :
    decodeFields (encodeFields fs) =
      if fs.all smallField then some (fs.map normField) else none :=
  decodeFieldsAux_encode fs hnum _ (Nat.le_refl _)

theorem FieldWF.small_norm {f : Field} (h : FieldWF f) : smallField f = true ∧ normField f = f := by
  obtain ⟨num, val⟩ := f
  obtain ⟨_, _, hv⟩ := h
  cases val with
  | varint n =>
    have hv : n < 2^64 := hv
    exact ⟨decide_eq_true (by omega), by simp only [normField, Nat.mod_eq_of_lt hv]⟩
  | bytes b =>
    have hv : b.length < 2^64 := hv
    exact ⟨decide_eq_true (by omega), rfl⟩

theorem decodeFields_encode_WF (fs : List Field) (h : ∀ f ∈ fs, FieldWF f) :
    decodeFields (encodeFields fs) = some fs := by
  rw [decodeFields_encode fs (fun f hf => Nat.lt_trans (h f hf).2.1 (by decide)),
    if_pos (List.all_eq_true.mpr fun f hf => (FieldWF.small_norm (h f hf)).1)]
  exact congrArg some (List.map_eq_self fun f hf => (FieldWF.small_norm (h f hf)).2)

theorem encodeField_length_le (f : Field) (fs : List Field) (h : f ∈ fs) :
    (encodeField f).length ≤ (encodeFields fs).length := by
  obtain ⟨as, bs, rfl⟩ := List.append_of_mem h
  simp only [encodeFields_append, encodeFields_cons, List.length_append]
  omega

theorem bField_length_le (k : Nat) (b : Bytes) (fs : List Field) (h : bField k b ∈ fs) :
    b.length ≤ (encodeFields fs).length := by
  have := encodeField_length_le _ fs h
  simp only [encodeField, bField, List.length_append] at this
  omega

def Fits (fs : List Field) : Prop := (encodeFields fs).length < 2^64

theorem Fits.nested {fs gs : List Field} {k : Nat} (h : Fits fs) (hm : bField k (encodeFields gs) ∈ fs) :
    Fits gs :=
  Nat.lt_of_le_of_lt (bField_length_le k _ fs hm) h

/-- Field number and varint in range: the part of `FieldWF` that does not follow from `Fits`. -/
def FieldShape (f : Field) : Prop :=
  0 < f.num ∧ f.num < 2^29 ∧ match f.val with | .varint n => n < 2^64 | .bytes _ => True

theorem Fits.fieldWF {fs : List Field} (h : Fits fs) (hs : ∀ f ∈ fs, FieldShape f) : ∀ f ∈ fs, FieldWF f := by
  intro f hf
  obtain ⟨h0, h1, h2⟩ := hs f hf
  refine ⟨h0, h1, ?_⟩
  obtain ⟨num, val⟩ := f
  cases val with
  | varint n => exact h2
  | bytes b => exact Nat.lt_of_le_of_lt (bField_length_le num b fs hf) h

theorem Fits.all_small {fs : List Field} (h : Fits fs) (hs : ∀ f ∈ fs, FieldShape f) :
    fs.all smallField = true :=
  List.all_eq_true.mpr fun f hf => (FieldWF.small_norm (h.fieldWF hs f hf)).1

/-- `hs` is closed by `simp [encX]` (with `or_imp, forall_and` when the encoder is built with `++`). -/
theorem decodeFields_encode_fits {fs : List Field} (h : Fits fs) (hs : ∀ f ∈ fs, FieldShape f) :
    decodeFields (encodeFields fs) = some fs :=
  decodeFields_encode_WF fs (h.fieldWF hs)

@[simp] theorem fieldShape_bField (k : Nat) (b : Bytes) : FieldShape (bField k b) ↔ 0 < k ∧ k < 2^29 := by
  simp [FieldShape, bField]

@[simp] theorem fieldShape_vField (k n : Nat) : FieldShape (vField k n) ↔ 0 < k ∧ k < 2^29 ∧ n < 2^64 := by
  simp [FieldShape, vField]

@[simp] theorem forall_mem_optV (k : Nat) (o : Option Nat) (P : Field → Prop) :
    (∀ f ∈ optV k o, P f) ↔ ∀ n, o = some n → P (vField k n) := by
  cases o <;> simp [optV]

@[simp] theorem forall_mem_optB (k : Nat) (o : Option Bytes) (P : Field → Prop) :
    (∀ f ∈ optB k o, P f) ↔ ∀ b, o = some b → P (bField k b) := by
  cases o <;> simp [optB]

@[simp] theorem bField_num (k : Nat) (b : Bytes) : (bField k b).num = k := rfl
@[simp] theorem vField_num (k n : Nat) : (vField k n).num = k := rfl

def allVarints (k : Nat) (fs : List Field) : List Nat :=
  fs.filterMap fun f => if f.num = k then (match f.val with | .varint n => some n | _ => none) else none

@[simp] theorem lastBytes_eq (k : Nat) (fs : List Field) : lastBytes k fs = (allBytes k fs).getLast? := by
  rw [allBytes, ← (List.foldl_or_eq_getLast? _ fs none).trans Option.or_none, lastBytes]
  congr 1
  funext acc f
  by_cases hk : f.num = k
  · rw [if_pos hk, if_pos hk]; cases f.val <;> rfl
  · rw [if_neg hk, if_neg hk]; rfl

@[simp] theorem lastVarint_eq (k : Nat) (fs : List Field) : lastVarint k fs = (allVarints k fs).getLast? := by
  rw [allVarints, ← (List.foldl_or_eq_getLast? _ fs none).trans Option.or_none, lastVarint]
  congr 1
  funext acc f
  by_cases hk : f.num = k
  · rw [if_pos hk, if_pos hk]; cases f.val <;> rfl
  · rw [if_neg hk, if_neg hk]; rfl

@[simp] theorem allBytes_append (k : Nat) (fs gs : List Field) :
    allBytes k (fs ++ gs) = allBytes k fs ++ allBytes k gs := by
  simp [allBytes]

@[simp] theorem allVarints_append (k : Nat) (fs gs : List Field) :
    allVarints k (fs ++ gs) = allVarints k fs ++ allVarints k gs := by
  simp [allVarints]

theorem allBytes_nil (k : Nat) : allBytes k [] = [] := rfl
theorem allVarints_nil (k : Nat) : allVarints k [] = [] := rfl
attribute [simp] allBytes_nil allVarints_nil

@[simp] theorem allBytes_cons_bField (k j : Nat) (b : Bytes) (fs : List Field) :
    allBytes k (bField j b :: fs) = if j = k then b :: allBytes k fs else allBytes k fs := by
  by_cases h : j = k <;> simp [allBytes, bField, h]

@[simp] theorem allBytes_cons_vField (k j n : Nat) (fs : List Field) :
    allBytes k (vField j n :: fs) = allBytes k fs := by
  by_cases h : j = k <;> simp [allBytes, vField, h]

@[simp] theorem allVarints_cons_bField (k j : Nat) (b : Bytes) (fs : List Field) :
    allVarints k (bField j b :: fs) = allVarints k fs := by
  by_cases h : j = k <;> simp [allVarints, bField, h]

@[simp] theorem allVarints_cons_vField (k j n : Nat) (fs : List Field) :
    allVarints k (vField j n :: fs) = if j = k then n :: allVarints k fs else allVarints k fs := by
  by_cases h : j = k <;> simp [allVarints, vField, h]

@[simp] theorem allBytes_map_bField (k j : Nat) {α : Type} (g : α → Bytes) (l : List α) :
    allBytes k (l.map fun a => bField j (g a)) = if j = k then l.map g else [] := by
  by_cases h : j = k <;> simp [allBytes, bField, List.filterMap_map, Function.comp_def, h]

@[simp] theorem allVarints_map_bField (k j : Nat) {α : Type} (g : α → Bytes) (l : List α) :
    allVarints k (l.map fun a => bField j (g a)) = [] := by
  simp [allVarints, bField, List.filterMap_map, Function.comp_def]

/-- `fun s => bField j s` is written `bField j` once `simp` has eta-reduced it. -/
@[simp] theorem allBytes_map_bField_id (k j : Nat) (l : List Bytes) :
    allBytes k (l.map (bField j)) = if j = k then l else [] := by
  simpa using allBytes_map_bField k j id l

@[simp] theorem allVarints_map_bField_id (k j : Nat) (l : List Bytes) : allVarints k (l.map (bField j)) = [] :=
  allVarints_map_bField k j id l

@[simp] theorem allBytes_optV (k j : Nat) (o : Option Nat) : allBytes k (optV j o) = [] := by
  cases o <;> simp [optV]

@[simp] theorem allVarints_optV (k j : Nat) (o : Option Nat) :
    allVarints k (optV j o) = if j = k then o.toList else [] := by
  cases o <;> simp [optV]

@[simp] theorem allBytes_optB (k j : Nat) (o : Option Bytes) :
    allBytes k (optB j o) = if j = k then o.toList else [] := by
  cases o <;> simp [optB]

@[simp] theorem allVarints_optB (k j : Nat) (o : Option Bytes) : allVarints k (optB j o) = [] := by
  cases o <;> simp [optB]

attribute [simp] Option.getLast?_toList

theorem mem_allBytes {k : Nat} {b : Bytes} {fs : List Field} : b ∈ allBytes k fs ↔ bField k b ∈ fs := by
  simp only [allBytes, List.mem_filterMap, bField]
  constructor
  · rintro ⟨⟨num, val⟩, hf, h⟩
    cases val <;> simp_all
  · exact fun h => ⟨_, h, by simp⟩

@[simp] theorem wrongType_cons_bField (k j : Nat) (w : Bool) (b : Bytes) (fs : List Field) :
    wrongType k w (bField j b :: fs) = ((decide (j = k) && w) || wrongType k w fs) := by
  simp [wrongType, bField]

@[simp] theorem wrongType_cons_vField (k j n : Nat) (w : Bool) (fs : List Field) :
    wrongType k w (vField j n :: fs) = ((decide (j = k) && !w) || wrongType k w fs) := by
  simp [wrongType, vField]

@[simp] theorem wrongType_map_bField {α : Type} (k j : Nat) (w : Bool) (g : α → Bytes) (l : List α) :
    wrongType k w (l.map fun x => bField j (g x)) = (decide (j = k) && w && !l.isEmpty) := by
  induction l with
  | nil => simp [wrongType]
  | cons x l ih =>
    rw [List.map_cons, wrongType_cons_bField, ih]
    cases decide (j = k) <;> cases w <;> simp

/-- `hab` is closed by `simp [encX]`; it is how the elements' encodings are found inside `fs`,
hence shorter than it. -/
theorem mapM_nested {α : Type} {k : Nat} {enc : α → List Field} {dec : Bytes → Option α} {l : List α}
    {fs : List Field} (hl : Fits fs) (hab : allBytes k fs = l.map fun x => encodeFields (enc x))
    (hdec : ∀ x ∈ l, Fits (enc x) → dec (encodeFields (enc x)) = some x) :
    (l.map fun x => encodeFields (enc x)).mapM dec = some l := by
  have h := List.mapM_map_some (fun x => encodeFields (enc x)) dec id l fun x hx =>
    hdec x hx (hl.nested (k := k) (mem_allBytes.mp (hab ▸ List.mem_map_of_mem hx)))
  rwa [List.map_id] at h

/-- A uint32 field read back through its `% 2^32`. -/
theorem map_mod_of_lt (o : Option Nat) (N : Nat) (h : ∀ v, o = some v → v < N) : o.map (· % N) = o := by
  cases o with
  | none => rfl
  | some v => exact congrArg some (Nat.mod_eq_of_lt (h v rfl))

end Biscuit.Wire
