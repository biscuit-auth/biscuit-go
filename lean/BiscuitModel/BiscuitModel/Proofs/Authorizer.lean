/-
Proofs/Authorizer — what the parts of the authorizer state machine (Model/Authorizer) return:
`runWorld`, `failedFrom`, `firstPolicy`, `evalBlock`, the block loop; `Authorize` through its
verdict (`authorizeWith_snd`, `verdictOf`) and its state (`authorizeWith_fst`); `Query`
(`query_fst`, `query_snd`); histories. Helper lemmas for C02, C03, C04, C10, C11, C12, C13, C18.
`C12.Forall2` and `C13.finalState` are declared here, not in Props/C12 and Props/C13, because
lemmas of this file are stated with them.
-/
import BiscuitModel.Model.Authorizer
import BiscuitModel.Proofs.Datalog

namespace Biscuit

namespace C12

/-- Position-wise relation between two lists of the same length (core has no `Forall₂`). -/
inductive Forall2 {α β : Type} (R : α → β → Prop) : List α → List β → Prop
  | nil : Forall2 R [] []
  | cons {a b l l'} : R a b → Forall2 R l l' → Forall2 R (a :: l) (b :: l')

theorem Forall2.imp_mem {α β : Type} {R R' : α → β → Prop} {l : List α} {l' : List β}
    (h : Forall2 R l l') : (∀ a ∈ l, ∀ b, R a b → R' a b) → Forall2 R' l l' := by
  induction h with
  | nil => intro _; exact .nil
  | cons hab _ ih =>
    intro hh
    exact .cons (hh _ (List.mem_cons_self ..) _ hab)
      (ih fun a ha b hr => hh a (List.mem_cons_of_mem _ ha) b hr)

theorem Forall2.imp {α β : Type} {R R' : α → β → Prop} {l : List α} {l' : List β}
    (h : Forall2 R l l') (hi : ∀ a b, R a b → R' a b) : Forall2 R' l l' :=
  h.imp_mem fun a _ b => hi a b

theorem Forall2.refl {α : Type} {R : α → α → Prop} (h : ∀ a, R a a) : ∀ l : List α, Forall2 R l l
  | [] => .nil
  | a :: l => .cons (h a) (Forall2.refl h l)

theorem Forall2.map_right {α β : Type} {R : α → β → Prop} (g : α → β) :
    ∀ l : List α, (∀ a ∈ l, R a (g a)) → Forall2 R l (l.map g)
  | [], _ => .nil
  | a :: l, h => .cons (h a (List.mem_cons_self ..))
      (Forall2.map_right g l fun b hb => h b (List.mem_cons_of_mem _ hb))

end C12

open C12 (Forall2)

section Auth
variable (cfg : EvalCfg)

theorem runWorld_run (lim : Limits) (W w : World) (e : Option RunErr)
    (h : runWorld cfg lim W = (w, e)) :
    run (evalBool cfg) lim.maxFacts W.rules lim.maxIter W.facts = (w.facts, e) ∧ w.rules = W.rules := by
  unfold runWorld at h
  simp only [Prod.mk.injEq] at h
  obtain ⟨hw, he⟩ := h
  subst hw
  exact ⟨Prod.ext rfl he, rfl⟩

theorem runWorld_of_run (lim : Limits) (W : World) (F : List DFact) (e : Option RunErr)
    (h : run (evalBool cfg) lim.maxFacts W.rules lim.maxIter W.facts = (F, e)) :
    runWorld cfg lim W = ({ W with facts := F }, e) := by
  unfold runWorld
  rw [h]

theorem failedFrom_eq (facts : List DFact) (mk : Nat → CheckId) :
    ∀ (cs : List Check) (i : Nat), failedFrom cfg facts mk cs i =
      (cs.zipIdx i).filterMap fun cj => if checkHolds cfg facts cj.1 then none else some (mk cj.2)
  | [], _ => rfl
  | c :: cs, i => by
    simp only [failedFrom, List.zipIdx_cons, List.filterMap_cons, failedFrom_eq facts mk cs (i + 1)]
    cases checkHolds cfg facts c <;> rfl

theorem failedChecks_map (facts : List DFact) (mk : Nat → CheckId) (f : CheckId → CheckId)
    (cs : List Check) :
    (failedChecks cfg facts mk cs).map f = failedChecks cfg facts (fun n => f (mk n)) cs := by
  simp only [failedChecks, failedFrom_eq, List.map_filterMap]
  congr 1
  funext cj
  split <;> rfl

theorem failedFrom_forall (facts : List DFact) (mk : Nat → CheckId) (Q : CheckId → Prop)
    (hmk : ∀ n, Q (mk n)) (cs : List Check) (i : Nat) :
    ∀ x ∈ failedFrom cfg facts mk cs i, Q x := by
  intro x hx
  simp only [failedFrom_eq, List.mem_filterMap] at hx
  obtain ⟨cj, _, h⟩ := hx
  split at h
  · cases h
  · cases h; exact hmk _

theorem firstPolicy_eq_find (facts : List DFact) : ∀ ps : List Policy,
    firstPolicy cfg facts ps =
      (ps.find? fun p => p.queries.any (queryHolds cfg facts)).map (·.kind)
  | [] => rfl
  | p :: ps => by
    simp only [firstPolicy, List.find?_cons]
    cases p.queries.any (queryHolds cfg facts) with
    | true => rfl
    | false => exact firstPolicy_eq_find facts ps

theorem evalBlock_of_run (lim : Limits) (base : List DFact) (b : Block) (idx : Nat) (w : World)
    (h : runWorld cfg lim { facts := insertAll base b.facts, rules := b.rules } = (w, none)) :
    evalBlock cfg lim base b idx = .ok (failedChecks cfg w.facts (CheckId.block idx) b.checks) := by
  simp only [evalBlock, h]

theorem evalBlock_eq_ok (lim : Limits) (base : List DFact) (b : Block) (idx : Nat)
    (l : List CheckId) (h : evalBlock cfg lim base b idx = .ok l) :
    ∃ w, runWorld cfg lim { facts := insertAll base b.facts, rules := b.rules } = (w, none) ∧
      l = failedChecks cfg w.facts (CheckId.block idx) b.checks := by
  simp only [evalBlock] at h
  split at h
  · cases h
  · next w heq => exact ⟨w, heq, (Except.ok.inj h).symm⟩

theorem evalBlock_eq_error (lim : Limits) (base : List DFact) (b : Block) (idx : Nat) (e : RunErr)
    (h : evalBlock cfg lim base b idx = .error e) :
    ∃ w, runWorld cfg lim { facts := insertAll base b.facts, rules := b.rules } = (w, some e) := by
  simp only [evalBlock] at h
  split at h
  · next w _ hr => cases h; exact ⟨w, hr⟩
  · cases h

theorem evalBlock_ok_forall (lim : Limits) (base : List DFact) (b : Block) (idx : Nat)
    (l : List CheckId) (h : evalBlock cfg lim base b idx = .ok l) :
    ∀ x ∈ l, ∃ c, x = CheckId.block idx c := by
  obtain ⟨w, _, rfl⟩ := evalBlock_eq_ok cfg lim base b idx l h
  exact failedFrom_forall cfg _ _ _ (fun n => ⟨n, rfl⟩) _ _

theorem evalBlock_shift (lim : Limits) (base : List DFact) (b : Block) (idx idx' : Nat)
    (f : CheckId → CheckId) (hf : ∀ c, f (.block idx' c) = .block idx c) :
    evalBlock cfg lim base b idx = Except.map (List.map f) (evalBlock cfg lim base b idx') := by
  simp only [evalBlock]
  split
  · rfl
  · simp only [Except.map, failedChecks_map]
    congr 2
    funext n
    exact (hf n).symm

theorem blockPhase_append (lim : Limits) (base : List DFact) :
    ∀ (bs bs' : List Block) (idx : Nat) (acc : List CheckId),
    blockPhase cfg lim base (bs ++ bs') idx acc =
      match blockPhase cfg lim base bs idx acc with
      | .error e => .error e
      | .ok acc' => blockPhase cfg lim base bs' (idx + bs.length) acc'
  | [], bs', idx, acc => by simp [blockPhase]
  | b :: bs, bs', idx, acc => by
    simp only [List.cons_append, blockPhase, List.length_cons]
    cases evalBlock cfg lim base b idx with
    | error e => rfl
    | ok failed =>
      simp only
      rw [blockPhase_append lim base bs bs' (idx + 1) (acc ++ failed)]
      have : idx + 1 + bs.length = idx + (bs.length + 1) := by omega
      rw [this]

theorem blockPhase_prefix (lim : Limits) (base : List DFact) (bs : List Block) (idx : Nat)
    (acc out : List CheckId) (h : blockPhase cfg lim base bs idx acc = .ok out) : acc <+: out := by
  fun_induction blockPhase cfg lim base bs idx acc
  case case1 => cases h; exact List.prefix_refl _
  case case2 => cases h
  case case3 failed _ ih => exact (List.prefix_append _ failed).trans (ih h)

theorem blockPhase_acc (lim : Limits) (base : List DFact) (bs : List Block) (idx : Nat)
    (a acc : List CheckId) :
    blockPhase cfg lim base bs idx (a ++ acc) =
      Except.map (a ++ ·) (blockPhase cfg lim base bs idx acc) := by
  fun_induction blockPhase cfg lim base bs idx acc
  case case1 => rfl
  case case2 he => simp only [blockPhase, he]; rfl
  case case3 he ih => simp only [blockPhase, he, List.append_assoc]; exact ih

theorem blockPhase_ok_runs (lim : Limits) (base : List DFact) (bs : List Block) (idx : Nat)
    (acc out : List CheckId) (h : blockPhase cfg lim base bs idx acc = .ok out) :
    ∀ b ∈ bs, (runWorld cfg lim { facts := insertAll base b.facts, rules := b.rules }).2 = none := by
  fun_induction blockPhase cfg lim base bs idx acc
  case case1 => nofun
  case case2 => cases h
  case case3 b bs idx acc failed he ih =>
    intro b' hb'
    rcases List.mem_cons.mp hb' with rfl | hb'
    · obtain ⟨w, hw, _⟩ := evalBlock_eq_ok cfg lim base _ idx failed he
      rw [hw]
    · exact ih h b' hb'

theorem blockPhase_eq_error (lim : Limits) (base : List DFact) (bs : List Block) (idx : Nat)
    (acc : List CheckId) (e : RunErr) (h : blockPhase cfg lim base bs idx acc = .error e) :
    ∃ b ∈ bs, ∃ w,
      runWorld cfg lim { facts := insertAll base b.facts, rules := b.rules } = (w, some e) := by
  fun_induction blockPhase cfg lim base bs idx acc
  case case1 => cases h
  case case2 b bs idx _ _ he =>
    cases h
    exact ⟨b, List.mem_cons_self .., evalBlock_eq_error cfg lim base b idx _ he⟩
  case case3 ih =>
    obtain ⟨b, hb, hw⟩ := ih h
    exact ⟨b, List.mem_cons_of_mem _ hb, hw⟩

theorem blockPhase_mid (lim : Limits) (base : List DFact) (pre post : List Block) (b : Block)
    (idx : Nat) (acc out : List CheckId)
    (h : blockPhase cfg lim base (pre ++ b :: post) idx acc = .ok out) :
    ∃ a fb t, blockPhase cfg lim base pre idx acc = .ok a ∧
      evalBlock cfg lim base b (idx + pre.length) = .ok fb ∧
      blockPhase cfg lim base post (idx + pre.length + 1) [] = .ok t ∧
      out = a ++ fb ++ t := by
  rw [blockPhase_append] at h
  cases hpre : blockPhase cfg lim base pre idx acc with
  | error e => rw [hpre] at h; cases h
  | ok a =>
    rw [hpre] at h
    simp only [blockPhase] at h
    cases hb : evalBlock cfg lim base b (idx + pre.length) with
    | error e => rw [hb] at h; cases h
    | ok fb =>
      rw [hb] at h
      simp only at h
      rw [← List.append_nil (a ++ fb), blockPhase_acc] at h
      cases ht : blockPhase cfg lim base post (idx + pre.length + 1) [] with
      | error e => rw [ht] at h; cases h
      | ok t =>
        rw [ht] at h
        simp only [Except.map, Except.ok.injEq] at h
        exact ⟨a, fb, t, rfl, rfl, rfl, h.symm⟩

theorem blockPhase_retag (lim : Limits) (base : List DFact) (f : CheckId → CheckId) :
    ∀ (bs : List Block) (idx idx' : Nat) (acc : List CheckId),
    (∀ j c, j < bs.length → f (.block (idx + j) c) = .block (idx' + j) c) →
    Except.map (List.map f) (blockPhase cfg lim base bs idx acc) =
      blockPhase cfg lim base bs idx' (acc.map f)
  | [], idx, idx', acc, _ => by simp [blockPhase, Except.map]
  | b :: bs, idx, idx', acc, hf => by
    simp only [blockPhase]
    rw [evalBlock_shift cfg lim base b idx' idx f (fun c => hf 0 c (Nat.zero_lt_succ _))]
    cases evalBlock cfg lim base b idx with
    | error e => rfl
    | ok failed =>
      simp only [Except.map]
      have := blockPhase_retag lim base f bs (idx + 1) (idx' + 1) (acc ++ failed)
        (fun j c hj => by
          rw [Nat.add_right_comm idx, Nat.add_right_comm idx']
          exact hf (j + 1) c (Nat.succ_lt_succ hj))
      rw [List.map_append] at this
      exact this

/-! The three list walks of `Authorize` observe the world only through `checkHolds`, satisfied
policy queries and `evalBlock`: position-wise equal observations give equal results. -/

theorem failedFrom_pointwise {W W' : List DFact} (mk : Nat → CheckId) {cs cs' : List Check}
    (h : Forall2 (fun c c' => checkHolds cfg W c = checkHolds cfg W' c') cs cs') :
    ∀ i, failedFrom cfg W mk cs i = failedFrom cfg W' mk cs' i := by
  induction h with
  | nil => intro i; rfl
  | cons hab _ ih => intro i; simp only [failedFrom, hab, ih]

theorem firstPolicy_pointwise {W W' : List DFact} {ps ps' : List Policy}
    (h : Forall2 (fun p p' => p.kind = p'.kind ∧
      p.queries.any (queryHolds cfg W) = p'.queries.any (queryHolds cfg W')) ps ps') :
    firstPolicy cfg W ps = firstPolicy cfg W' ps' := by
  induction h with
  | nil => rfl
  | cons hab _ ih => simp only [firstPolicy, hab.1, hab.2, ih]

theorem blockPhase_pointwise {lim lim' : Limits} {base base' : List DFact} {bs bs' : List Block}
    (h : Forall2 (fun b b' => ∀ idx, evalBlock cfg lim base b idx = evalBlock cfg lim' base' b' idx)
      bs bs') :
    ∀ idx acc, blockPhase cfg lim base bs idx acc = blockPhase cfg lim' base' bs' idx acc := by
  induction h with
  | nil => intro idx acc; rfl
  | cons hab _ ih =>
    intro idx acc
    simp only [blockPhase, hab idx]
    cases evalBlock cfg _ _ _ idx with
    | error e => rfl
    | ok failed => exact ih _ _

/-- Verdict from the policy result and the outcome of the block loop. -/
def finish (pol : Option PolicyKind) : Except RunErr (List CheckId) → Verdict
  | .error e => .runError e
  | .ok failed => if !failed.isEmpty then .checksFailed failed else policyVerdict pol

/-- The verdicts read off the policies: no run erred and no check failed. -/
def Verdict.isPolicy : Verdict → Bool
  | .checksFailed _ | .runError _ => false
  | _ => true

theorem policyVerdict_ne (pol : Option PolicyKind) {v : Verdict} (hv : v.isPolicy = false) :
    policyVerdict pol ≠ v := by
  rintro rfl
  rcases pol with _ | _ | _ <;> cases hv

theorem policyVerdict_inj (o o' : Option PolicyKind) : policyVerdict o = policyVerdict o' ↔ o = o' := by
  rcases o with _ | _ | _ <;> rcases o' with _ | _ | _ <;> simp [policyVerdict]

/-- For a goal `finish pol r = .ok` (`.denied`, `.noMatch`) instantiate `o := some .allow` (`some .deny`, `none`):
`policyVerdict o` is that verdict by `rfl`, so `.mp h` applies where `rw` would not. -/
theorem finish_eq_policyVerdict (pol o : Option PolicyKind) (r : Except RunErr (List CheckId)) :
    finish pol r = policyVerdict o ↔ r = .ok [] ∧ pol = o := by
  rcases r with e | _ | ⟨id, ids⟩
  · exact ⟨fun h => absurd h.symm (policyVerdict_ne o rfl), nofun⟩
  · exact (policyVerdict_inj pol o).trans ⟨fun h => ⟨rfl, h⟩, fun h => h.2⟩
  · exact ⟨fun h => absurd h.symm (policyVerdict_ne o rfl), nofun⟩

theorem finish_eq_checksFailed (pol : Option PolicyKind) (r : Except RunErr (List CheckId))
    (ids : List CheckId) (h : finish pol r = .checksFailed ids) : r = .ok ids := by
  rcases r with e | _ | ⟨id, l⟩
  · cases h
  · exact absurd h (policyVerdict_ne pol rfl)
  · cases h; rfl

theorem finish_eq_runError (pol : Option PolicyKind) (r : Except RunErr (List CheckId))
    (e : RunErr) (h : finish pol r = .runError e) : r = .error e := by
  rcases r with e' | _ | ⟨id, l⟩
  · cases h; rfl
  · exact absurd h (policyVerdict_ne pol rfl)
  · cases h

/-- The verdict as a function of what the authority phase returned and of the later blocks. -/
def verdictOf (lim : Limits) (bs : List Block) : World × Except RunErr AuthorityPhase → Verdict
  | (_, .error e) => .runError e
  | (w, .ok ap) => finish ap.policy (blockPhase cfg lim w.facts bs 1 ap.failed)

theorem authorizeWith_snd (p : Bool) (tok : Token) (s : AuthState) :
    (authorizeWith cfg p tok s).2 =
      verdictOf cfg s.limits tok.blocks (authorityPhase cfg tok.authority s) := by
  unfold authorizeWith
  rcases authorityPhase cfg tok.authority s with ⟨w, e | ap⟩
  · rfl
  · simp only [verdictOf]
    cases blockPhase cfg s.limits w.facts tok.blocks 1 ap.failed with
    | error e => rfl
    | ok failed => simp only [finish]; split <;> rfl

/-- The later blocks leave no trace in the state. With `p` (the pinned tree's reset, defect D9)
the base world is overwritten exactly when the verdict comes from the policies. -/
theorem authorizeWith_fst (p : Bool) (tok : Token) (s : AuthState) :
    (authorizeWith cfg p tok s).1 =
      { s with world := (authorityPhase cfg tok.authority s).1, dirty := true,
               baseWorld := bif p && (authorizeWith cfg p tok s).2.isPolicy
                 then (authorityPhase cfg tok.authority s).1 else s.baseWorld } := by
  unfold authorizeWith
  rcases authorityPhase cfg tok.authority s with ⟨w, e | ap⟩
  · cases p <;> rfl
  · simp only
    rcases blockPhase cfg s.limits w.facts tok.blocks 1 ap.failed with e | _ | ⟨id, ids⟩
    · cases p <;> rfl
    · rcases ap.policy with _ | _ | _ <;> cases p <;> rfl
    · cases p <;> rfl

theorem authorize_fst (tok : Token) (s : AuthState) :
    (authorize cfg tok s).1 =
      { s with world := (authorityPhase cfg tok.authority s).1, dirty := true } :=
  authorizeWith_fst cfg false tok s

theorem authorityPhase_of_run (A : Block) (s : AuthState) (w2 : World)
    (h : runWorld cfg s.limits
      { facts := insertAll s.world.facts A.facts, rules := s.world.rules ++ A.rules } = (w2, none)) :
    authorityPhase cfg A s =
      (w2,
       .ok { world := { w2 with rules := [] },
             failed := failedChecks cfg w2.facts CheckId.authorizer s.checks ++
               failedChecks cfg w2.facts (CheckId.block 0) A.checks,
             policy := firstPolicy cfg w2.facts s.policies }) := by
  simp only [authorityPhase, h]

theorem authorize_snd_of_run (tok : Token) (s : AuthState) (w2 : World)
    (h : runWorld cfg s.limits
      { facts := insertAll s.world.facts tok.authority.facts,
        rules := s.world.rules ++ tok.authority.rules } = (w2, none)) :
    (authorize cfg tok s).2 =
      finish (firstPolicy cfg w2.facts s.policies)
        (blockPhase cfg s.limits w2.facts tok.blocks 1
          (failedChecks cfg w2.facts CheckId.authorizer s.checks ++
            failedChecks cfg w2.facts (CheckId.block 0) tok.authority.checks)) := by
  rw [authorize, authorizeWith_snd, authorityPhase_of_run cfg _ s w2 h]
  rfl

theorem authorize_fst_of_run (tok : Token) (s : AuthState) (w2 : World)
    (h : runWorld cfg s.limits
      { facts := insertAll s.world.facts tok.authority.facts,
        rules := s.world.rules ++ tok.authority.rules } = (w2, none)) :
    (authorize cfg tok s).1 = { s with world := w2, dirty := true } := by
  rw [authorize_fst, authorityPhase_of_run cfg _ s w2 h]

theorem authorityPhase_eq_error (A : Block) (s : AuthState) (w : World) (e : RunErr)
    (h : authorityPhase cfg A s = (w, .error e)) :
    runWorld cfg s.limits
      { facts := insertAll s.world.facts A.facts, rules := s.world.rules ++ A.rules } = (w, some e) := by
  simp only [authorityPhase] at h
  split at h
  · next hr => cases h; exact hr
  · cases h

theorem authorizeWith_runError_from (p : Bool) (tok : Token) (s : AuthState) (e : RunErr)
    (h : (authorizeWith cfg p tok s).2 = .runError e) :
    ∃ w w', runWorld cfg s.limits w = (w', some e) := by
  rw [authorizeWith_snd] at h
  rcases hap : authorityPhase cfg tok.authority s with ⟨w, e' | ap⟩ <;> rw [hap] at h
  · cases h
    exact ⟨_, _, authorityPhase_eq_error cfg _ s w _ hap⟩
  · obtain ⟨b, _, w', hw'⟩ := blockPhase_eq_error cfg (h := finish_eq_runError _ _ _ h)
    exact ⟨_, _, hw'⟩

/-! Appending later blocks, for an arbitrary result `x` of the authority phase. -/

/-- A verdict of the attenuated token that comes from the policies is the parent's verdict too:
acceptance (C02) is the case `o = some .allow`. -/
theorem verdictOf_append_policy (lim : Limits) (bs Bs : List Block)
    (x : World × Except RunErr AuthorityPhase) (o : Option PolicyKind)
    (h : verdictOf cfg lim (bs ++ Bs) x = policyVerdict o) :
    verdictOf cfg lim bs x = policyVerdict o := by
  rcases x with ⟨w, e | ap⟩
  · exact h
  · simp only [verdictOf] at h ⊢
    rw [finish_eq_policyVerdict] at h ⊢
    obtain ⟨hb, hp⟩ := h
    rw [blockPhase_append] at hb
    cases hpre : blockPhase cfg lim w.facts bs 1 ap.failed with
    | error e => rw [hpre] at hb; cases hb
    | ok acc =>
      rw [hpre] at hb
      exact ⟨congrArg _ (List.prefix_nil.mp (blockPhase_prefix cfg (h := hb))), hp⟩

theorem verdictOf_append_runError (lim : Limits) (bs Bs : List Block)
    (x : World × Except RunErr AuthorityPhase) (e : RunErr)
    (h : verdictOf cfg lim bs x = .runError e) : verdictOf cfg lim (bs ++ Bs) x = .runError e := by
  rcases x with ⟨w, e' | ap⟩
  · exact h
  · simp only [verdictOf] at h ⊢
    rw [blockPhase_append, finish_eq_runError _ _ _ h]
    rfl

theorem verdictOf_append_checksFailed (lim : Limits) (bs Bs : List Block)
    (x : World × Except RunErr AuthorityPhase) (ids ids' : List CheckId)
    (h : verdictOf cfg lim bs x = .checksFailed ids)
    (h' : verdictOf cfg lim (bs ++ Bs) x = .checksFailed ids') : ids <+: ids' := by
  rcases x with ⟨w, e | ap⟩
  · cases h
  · have hb' := finish_eq_checksFailed _ _ _ h'
    rw [blockPhase_append, finish_eq_checksFailed _ _ _ h] at hb'
    exact blockPhase_prefix cfg (h := hb')

/-- The failures of the authority phase carry only `authorizer _` and `block 0 _` tags. -/
theorem authorityPhase_failed_map (A : Block) (s : AuthState) (w : World) (ap : AuthorityPhase)
    (h : authorityPhase cfg A s = (w, .ok ap)) (f : CheckId → CheckId)
    (hA : ∀ c, f (.authorizer c) = .authorizer c) (h0 : ∀ c, f (.block 0 c) = .block 0 c) :
    ap.failed.map f = ap.failed := by
  simp only [authorityPhase] at h
  split at h
  · simp at h
  · simp only [Prod.mk.injEq, Except.ok.injEq] at h
    obtain ⟨_, rfl⟩ := h
    simp only [List.map_append, failedChecks_map, hA, h0]

theorem query_fst (s : AuthState) (q : DRule) :
    (query cfg s q).1 = { s with world := (runWorld cfg s.limits s.world).1, dirty := true } := by
  unfold query
  split <;> (next h => rw [h])

theorem query_snd (s : AuthState) (q : DRule) :
    (query cfg s q).2 =
      match runWorld cfg s.limits s.world with
      | (_, some e) => .error e
      | (w, none) => .ok (queryRule (evalBool cfg) q w.facts) := by
  unfold query
  split <;> (next h => rw [h])

theorem stepOpSeq_query_auth (p : Bool) (toks : List Token) (st : SeqState) (q : DRule) :
    (stepOpSeq cfg p toks st (.query q)).1.auth = (query cfg st.auth q).1 := by
  simp only [stepOpSeq]
  split <;> (next h => rw [h])

theorem stepOpSeq_limits (p : Bool) (toks : List Token) (st : SeqState) (op : AuthOp) :
    (stepOpSeq cfg p toks st op).1.auth.limits = st.auth.limits := by
  cases op with
  | addFact f => rfl
  | addRule r => rfl
  | addCheck c => rfl
  | addPolicy p => rfl
  | authorize => simp only [stepOpSeq, authorizeWith_fst]
  | query q => rw [stepOpSeq_query_auth, query_fst]
  | reset => rfl
  | saveLoad j =>
    simp only [stepOpSeq]
    split <;> rfl
  | loadSnap snap => rfl

theorem stepOpSeq_baseWorld (toks : List Token) (st : SeqState) (op : AuthOp)
    (h : st.auth.baseWorld = World.empty) :
    (stepOpSeq cfg false toks st op).1.auth.baseWorld = World.empty := by
  cases op with
  | addFact f => exact h
  | addRule r => exact h
  | addCheck c => exact h
  | addPolicy p => exact h
  | authorize => exact (congrArg AuthState.baseWorld (authorize_fst cfg _ st.auth)).trans h
  | query q => rw [stepOpSeq_query_auth, query_fst]; exact h
  | reset => exact h
  | saveLoad j =>
    simp only [stepOpSeq]
    split
    · exact h
    · rfl
  | loadSnap snap => exact h

namespace C13

def finalState (cfg : EvalCfg) (pinned : Bool) (toks : List Token) : SeqState → List AuthOp → SeqState
  | st, [] => st
  | st, op :: ops => finalState cfg pinned toks (stepOpSeq cfg pinned toks st op).1 ops

end C13

open C13 (finalState)

theorem finalState_baseWorld_limits (toks : List Token) :
    ∀ (h : List AuthOp) (st : SeqState), st.auth.baseWorld = World.empty →
      (finalState cfg false toks st h).auth.baseWorld = World.empty ∧
      (finalState cfg false toks st h).auth.limits = st.auth.limits
  | [], st, hb => ⟨hb, rfl⟩
  | op :: ops, st, hb => by
    simp only [finalState]
    obtain ⟨h1, h2⟩ := finalState_baseWorld_limits toks ops _ (stepOpSeq_baseWorld cfg toks st op hb)
    exact ⟨h1, h2.trans (stepOpSeq_limits cfg false toks st op)⟩

theorem runSeq_append (p : Bool) (toks : List Token) :
    ∀ (h k : List AuthOp) (st : SeqState),
    runSeq cfg p toks st (h ++ k) = runSeq cfg p toks st h ++ runSeq cfg p toks (finalState cfg p toks st h) k
  | [], k, st => rfl
  | op :: ops, k, st => by
    simp only [List.cons_append, runSeq, finalState, runSeq_append p toks ops k]

end Auth

end Biscuit
