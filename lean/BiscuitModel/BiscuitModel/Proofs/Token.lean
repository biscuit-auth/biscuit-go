/-
Proofs/Token — the signed envelope, for C01, C09, C16, C17, C20: what the signed payloads bind,
the size gates, the random source, what build / append / seal / reload return, and induction
over derivation histories (`deriveAll_induction` and its two instances).
-/
import BiscuitModel.Model.Token
import BiscuitModel.Proofs.WireEnvelope

namespace Biscuit
open Wire

theorem le32_length (n : Nat) : (le32 n).length = 4 := rfl

theorem UInt8.ofNat_inj_of_lt {a b : Nat} (ha : a < 256) (hb : b < 256)
    (h : UInt8.ofNat a = UInt8.ofNat b) : a = b := by
  rw [← UInt8.toNat_ofNat_of_lt' ha, h, UInt8.toNat_ofNat_of_lt' hb]

theorem le32_digits (a : Nat) (ha : a < 2^32) :
    a = a % 256 + 256 * (a / 256 % 256) + 65536 * (a / 65536 % 256) + 16777216 * (a / 16777216 % 256) := by
  omega

theorem le32_inj (a b : Nat) (ha : a < 2^32) (hb : b < 2^32) (h : le32 a = le32 b) : a = b := by
  simp only [le32, List.cons.injEq, and_true] at h
  obtain ⟨h0, h1, h2, h3⟩ := h
  rw [le32_digits a ha, le32_digits b hb,
    UInt8.ofNat_inj_of_lt (Nat.mod_lt _ (by decide)) (Nat.mod_lt _ (by decide)) h0,
    UInt8.ofNat_inj_of_lt (Nat.mod_lt _ (by decide)) (Nat.mod_lt _ (by decide)) h1,
    UInt8.ofNat_inj_of_lt (Nat.mod_lt _ (by decide)) (Nat.mod_lt _ (by decide)) h2,
    UInt8.ofNat_inj_of_lt (Nat.mod_lt _ (by decide)) (Nat.mod_lt _ (by decide)) h3]

theorem blockPayload_inj (a b : SignedBlockMsg)
    (hlen : a.nextKey.key.length = b.nextKey.key.length)
    (hA : a.nextKey.algorithm < 2^32) (hB : b.nextKey.algorithm < 2^32)
    (h : blockPayload a = blockPayload b) :
    a.block = b.block ∧ a.nextKey.algorithm = b.nextKey.algorithm ∧ a.nextKey.key = b.nextKey.key := by
  unfold blockPayload at h
  obtain ⟨h1, hk⟩ := List.append_inj' h hlen
  obtain ⟨hb, hl⟩ := List.append_inj' h1 (by simp [le32_length])
  exact ⟨hb, le32_inj _ _ hA hB hl, hk⟩

/-- The key current after walking `l` from `k`. -/
def finalKey (k : Bytes) (l : List SignedBlockMsg) : Bytes := (l.getLast?.map (·.nextKey.key)).getD k

theorem finalKey_nil (k : Bytes) : finalKey k [] = k := rfl

theorem finalKey_cons (k : Bytes) (sb : SignedBlockMsg) (rest : List SignedBlockMsg) :
    finalKey k (sb :: rest) = finalKey sb.nextKey.key rest := by
  simp only [finalKey, List.getLast?_cons]
  cases rest.getLast? <;> rfl

theorem finalKey_append_singleton (k : Bytes) (l : List SignedBlockMsg) (sb : SignedBlockMsg) :
    finalKey k (l ++ [sb]) = sb.nextKey.key := by
  simp [finalKey]

theorem sizeGate_ok_iff (sb : SignedBlockMsg) :
    sizeGate sb = .ok () ↔ sb.nextKey.key.length = 32 ∧ sb.signature.length = 64 := by
  unfold sizeGate
  by_cases h1 : sb.nextKey.key.length = 32 <;> by_cases h2 : sb.signature.length = 64 <;> simp [h1, h2]

theorem forM_ok_iff {ε α : Type} (f : α → Except ε Unit) (l : List α) :
    forM l f = .ok () ↔ ∀ a ∈ l, f a = .ok () := by
  induction l with
  | nil => simp [pure, Except.pure]
  | cons a l ih =>
    rw [List.forM_cons, List.forall_mem_cons, ← ih]
    cases f a <;> simp [bind, Except.bind]

theorem sizeGates_ok_iff (e : BiscuitMsg) :
    sizeGates e = .ok () ↔
      ∀ sb ∈ e.authority :: e.blocks, sb.nextKey.key.length = 32 ∧ sb.signature.length = 64 := by
  simp only [← sizeGate_ok_iff, ← forM_ok_iff, List.forM_cons]
  rfl

/-! C20's two measures of a read script and what `readFull` does in terms of them. They stand
here because the length of a drawn seed, which C01 needs, is read off `drawSeed_some`. -/

namespace C20

/-- Total number of bytes a script can deliver before its first failure. -/
def delivered : Rng → Nat
  | [] => 0
  | .fail :: _ => 0
  | .chunk b :: rest => b.length + delivered rest
  | .chunkErr b :: _ => b.length

theorem readFull_short (need : Nat) (rng : Rng) (acc : Bytes) (h : delivered rng < need) :
    readFull need rng acc = none := by
  fun_induction readFull need rng acc with
  | case1 => exact absurd h (Nat.not_lt_zero _)
  | case2 | case3 | case7 => rfl
  | case4 need b rest acc hb | case6 need b rest acc hb => simp only [delivered] at h; omega
  | case5 need b rest acc hb ih => exact ih (by simp only [delivered] at h; omega)

/-- The bytes a script delivers before its first failure. -/
def firstBytes : Rng → Bytes
  | [] => []
  | .fail :: _ => []
  | .chunk b :: rest => b ++ firstBytes rest
  | .chunkErr b :: _ => b

theorem readFull_enough (need : Nat) (rng : Rng) (acc : Bytes) (h : delivered rng ≥ need) :
    ∃ rng', readFull need rng acc = some (acc ++ (firstBytes rng).take need, rng') := by
  fun_induction readFull need rng acc with
  | case1 rng acc => exact ⟨rng, by simp⟩
  | case2 | case3 => simp [delivered] at h
  | case4 need b rest acc hb => exact ⟨_, by rw [firstBytes, List.take_append_of_le_length hb]⟩
  | case5 need b rest acc hb ih =>
    obtain ⟨rng', h'⟩ := ih (by simp only [delivered] at h; omega)
    have hb' : List.take (need + 1) b = b := List.take_of_length_le (by omega)
    exact ⟨rng', by rw [h', firstBytes, List.take_append, hb', List.append_assoc]⟩
  | case6 need b rest acc hb => exact ⟨_, rfl⟩
  | case7 need b rest acc hb => exact absurd h hb

theorem firstBytes_length (rng : Rng) : (firstBytes rng).length = delivered rng := by
  induction rng with
  | nil => rfl
  | cons step rest ih =>
    cases step with
    | fail => rfl
    | chunk b => simp [firstBytes, delivered, ih]
    | chunkErr b => simp [firstBytes, delivered]

theorem drawSeed_some (rng rng' : Rng) (seed : Bytes) (h : drawSeed rng = some (seed, rng')) :
    seed = (firstBytes rng).take 32 ∧ ((firstBytes rng).take 32).length = 32 := by
  unfold drawSeed at h
  by_cases hd : delivered rng < 32
  · rw [readFull_short 32 rng [] hd] at h; cases h
  · obtain ⟨r, hr⟩ := readFull_enough 32 rng [] (by omega)
    rw [hr] at h
    simp only [List.nil_append, Option.some.injEq, Prod.mk.injEq] at h
    refine ⟨h.1.symm, ?_⟩
    rw [List.length_take, firstBytes_length]; omega

end C20

theorem drawSeed_length (rng : Rng) (seed : Bytes) (rng' : Rng) (h : drawSeed rng = some (seed, rng')) :
    seed.length = 32 := by
  obtain ⟨rfl, hl⟩ := C20.drawSeed_some rng rng' seed h
  exact hl

theorem buildEnvelope_ok (S : SigScheme) (rootSeed : Bytes) (id : Option Nat) (block : Bytes) (rng rng' : Rng)
    (e : BiscuitMsg) (h : buildEnvelope S rootSeed id block rng = .ok (e, rng')) :
    ∃ seed, drawSeed rng = some (seed, rng') ∧
      e = { rootKeyId := id,
            authority := { block := block, nextKey := { algorithm := ed25519Alg, key := S.pub seed },
                           signature := S.sign rootSeed (block ++ le32 ed25519Alg ++ S.pub seed) },
            blocks := [], proof := .nextSecret seed } := by
  unfold buildEnvelope at h
  split at h
  · cases h
  · next seed r hd => cases h; exact ⟨seed, hd, rfl⟩

theorem appendEnvelopeWith_ok (keep : Bool) (S : SigScheme) (e : BiscuitMsg) (block : Bytes) (rng rng' : Rng)
    (e' : BiscuitMsg) (h : appendEnvelopeWith keep S e block rng = .ok (e', rng')) :
    ∃ sk seed, e.proof = .nextSecret sk ∧ sk.length = 32 ∧ drawSeed rng = some (seed, rng') ∧
      e' = { rootKeyId := if keep then e.rootKeyId else none, authority := e.authority,
             blocks := e.blocks ++ [{ block := block, nextKey := { algorithm := ed25519Alg, key := S.pub seed },
                                      signature := S.sign sk (block ++ le32 ed25519Alg ++ S.pub seed) }],
             proof := .nextSecret seed } := by
  unfold appendEnvelopeWith at h
  split at h
  · next sk hp =>
    split at h
    · cases h
    · next hl =>
      split at h
      · cases h
      · next seed r hd =>
        cases h
        exact ⟨sk, seed, hp, Decidable.of_not_not hl, hd, rfl⟩
  · cases h

theorem sealEnvelopeWith_ok (keep : Bool) (S : SigScheme) (e e' : BiscuitMsg)
    (h : sealEnvelopeWith keep S e = .ok e') :
    ∃ sk, e.proof = .nextSecret sk ∧ sk.length = 32 ∧
      e' = { rootKeyId := if keep then e.rootKeyId else none, authority := e.authority,
             blocks := e.blocks, proof := .finalSignature (S.sign sk (sealPayload (lastBlock e))) } := by
  unfold sealEnvelopeWith at h
  split at h
  · next sk hp =>
    split at h
    · cases h
    · next hl => cases h; exact ⟨sk, hp, Decidable.of_not_not hl, rfl⟩
  · cases h

theorem reload_some (e e' : BiscuitMsg) (h : reload e = some e') : e' = normEnv e := by
  rw [reload, decodeBiscuit_encode] at h
  split at h
  · exact (Option.some.inj h).symm
  · cases h

theorem derive_append_ok_iff {keep : Bool} {S : SigScheme} {e e' : BiscuitMsg} {block : Bytes} {rng : Rng} :
    derive keep S e (.append block rng) = .ok e' ↔
      ∃ rng', appendEnvelopeWith keep S e block rng = .ok (e', rng') := by
  simp only [derive]
  cases appendEnvelopeWith keep S e block rng with
  | error r => simp [Except.map]
  | ok p => simp [Except.map, Prod.ext_iff, eq_comm]

theorem derive_reload_ok_iff {keep : Bool} {S : SigScheme} {e e' : BiscuitMsg} :
    derive keep S e .reload = .ok e' ↔ reload e = some e' := by
  simp only [derive]
  cases reload e <;> simp

theorem deriveAll_cons_ok_iff {keep : Bool} {S : SigScheme} {e e' : BiscuitMsg} {op : DeriveOp}
    {ops : List DeriveOp} :
    deriveAll keep S e (op :: ops) = .ok e' ↔
      ∃ e1, derive keep S e op = .ok e1 ∧ deriveAll keep S e1 ops = .ok e' := by
  simp only [deriveAll]
  cases derive keep S e op <;> simp

/-- Induction over a successful history, in the direction `deriveAll` recurses. -/
theorem deriveAll_induction {keep : Bool} {S : SigScheme}
    {R : BiscuitMsg → List DeriveOp → BiscuitMsg → Prop}
    (nil : ∀ e, R e [] e)
    (cons : ∀ e op e1 ops e', derive keep S e op = .ok e1 → deriveAll keep S e1 ops = .ok e' →
      R e1 ops e' → R e (op :: ops) e')
    {e0 e : BiscuitMsg} {ops : List DeriveOp} (h : deriveAll keep S e0 ops = .ok e) : R e0 ops e := by
  induction ops generalizing e0 with
  | nil => cases h; exact nil _
  | cons op ops ih =>
    obtain ⟨e1, hd, h⟩ := deriveAll_cons_ok_iff.1 h
    exact cons _ _ _ _ _ hd h (ih h)

theorem deriveAll_invariant {keep : Bool} {S : SigScheme} {P : BiscuitMsg → Prop}
    (step : ∀ e op e', P e → derive keep S e op = .ok e' → P e')
    {e0 e : BiscuitMsg} {ops : List DeriveOp} (h0 : P e0) (h : deriveAll keep S e0 ops = .ok e) : P e :=
  deriveAll_induction (R := fun e _ e' => P e → P e') (fun _ hp => hp)
    (fun _ _ _ _ _ hd _ ih hp => ih (step _ _ _ hp hd)) h h0

theorem deriveAll_ok_mem {keep : Bool} {S : SigScheme} {e0 e : BiscuitMsg} {ops : List DeriveOp}
    (h : deriveAll keep S e0 ops = .ok e) {op : DeriveOp} (hm : op ∈ ops) :
    ∃ e1 e2, derive keep S e1 op = .ok e2 :=
  deriveAll_induction (R := fun _ ops _ => op ∈ ops → ∃ e1 e2, derive keep S e1 op = .ok e2)
    (fun _ hm => nomatch hm)
    (fun e _ e1 _ _ hd _ ih hm => by
      rcases List.mem_cons.1 hm with rfl | hin
      · exact ⟨e, e1, hd⟩
      · exact ih hin) h hm

theorem revocationIds_eq_map (e : BiscuitMsg) :
    revocationIds e = (e.authority :: e.blocks).map (·.signature) := rfl

theorem revocationIds_normEnv (e : BiscuitMsg) : revocationIds (normEnv e) = revocationIds e := by
  simp only [revocationIds, normEnv_signatures]

end Biscuit
