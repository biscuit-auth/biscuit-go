/-
Proofs/Rename — a renaming of variables that is injective on the variables of a
rule does not change what the rule computes (C12, "renaming variables consistently").

Layers:
* bindings: `lookup (ρ n)` in the renamed environment is `lookup n` in the original;
* `unifyTerms` / `solve`: the renamed body over the renamed environment yields the
  renamed combinations, in the same order;
* expressions and head instantiation: same outcome, including the
  unknown-variable / invalid-rule errors;
* `applyRule`, `stepAll`, `run`: exact equality;
* authorizer: any rule transformer that preserves `applyRule` (`Preserves`) commutes with
  `Authorize` and `Query`: same result, and the state left is the transformed state.
-/
import BiscuitModel.Model.Rename
import BiscuitModel.Proofs.Authorizer

namespace Biscuit.Rename
open Biscuit

section Vars
variable {V : Type}

theorem mem_termsVars {ts : List (Term V)} {n : Bytes} : n ∈ termsVars ts ↔ Term.var n ∈ ts := by
  simp only [termsVars, List.mem_filterMap]
  constructor
  · rintro ⟨t, ht, h⟩
    cases t with
    | var m => cases h; exact ht
    | const c => cases h
  · exact fun h => ⟨_, h, rfl⟩

theorem mem_exprVars {e : Expr} {n : Bytes} : n ∈ exprVars e ↔ Op.value (.var n) ∈ e := by
  simp only [exprVars, List.mem_filterMap]
  constructor
  · rintro ⟨op, hop, h⟩
    match op, h with
    | .value (.var m), h => cases h; exact hop
  · exact fun h => ⟨_, h, rfl⟩

theorem mem_ruleVars {r : DRule} {n : Bytes} : n ∈ ruleVars r ↔
    n ∈ predVars r.head ∨ (∃ p ∈ r.body, n ∈ predVars p) ∨ ∃ e ∈ r.exprs, n ∈ exprVars e := by
  simp only [ruleVars, List.mem_append, List.mem_flatMap, or_assoc]

end Vars

-- `[DecidableEq V]` is in the statement of every lemma of its section, needed there or not
set_option linter.unusedSectionVars false

section Engine
variable {V : Type} [DecidableEq V]
variable {ρ : Bytes → Bytes} {S : List Bytes}

/-- Only names of `S` are bound. -/
def DomIn (σ : Bindings V) (S : List Bytes) : Prop := ∀ n v, σ.lookup n = some v → n ∈ S

theorem domIn_nil : DomIn ([] : Bindings V) S := by
  intro n v h; cases h

theorem domIn_cons {σ : Bindings V} {n : Bytes} {v : V} (hn : n ∈ S) (h : DomIn σ S) :
    DomIn ((n, v) :: σ) S := by
  intro m w hm
  rw [Bindings.lookup_cons] at hm
  split at hm
  · next heq => exact heq ▸ hn
  · exact h m w hm

/-- What `unifyTerms`, `unifyPred` and `solve` bind beyond `σ` are variables of the terms
(third part of `unifyTerms_sound`, `unifyPred_sound`, `solve_sound`). -/
theorem DomIn.of_sound {σ τ : Bindings V} {vars : List Bytes} (hσ : DomIn σ S)
    (hvars : ∀ n ∈ vars, n ∈ S)
    (h : ∀ n v, τ.lookup n = some v → σ.lookup n = some v ∨ n ∈ vars) : DomIn τ S :=
  fun n v hn => (h n v hn).elim (hσ n v) (hvars n)

/-- `termVars` of the specification and `termsVars` of the renaming list the same names. -/
theorem termVars_eq : ∀ ts : List (Term V), termVars ts = termsVars ts
  | [] => rfl
  | .var n :: ts => congrArg (n :: ·) (termVars_eq ts)
  | .const _ :: ts => termVars_eq ts

theorem lookup_rename (hinj : InjOn ρ S) :
    ∀ (σ : Bindings V), DomIn σ S → ∀ n ∈ S,
      (renameBindings ρ σ).lookup (ρ n) = σ.lookup n := by
  intro σ
  induction σ with
  | nil => intro _ n _; rfl
  | cons p rest ih =>
    intro hσ n hn
    obtain ⟨k, v⟩ := p
    have hk : k ∈ S := hσ k v (by simp [Bindings.lookup_cons])
    show Bindings.lookup ((ρ k, v) :: renameBindings ρ rest) (ρ n) = Bindings.lookup ((k, v) :: rest) n
    simp only [Bindings.lookup]
    by_cases hkn : k = n
    · subst hkn; simp
    · have : ρ k ≠ ρ n := fun h => hkn (hinj k hk n hn h)
      rw [if_neg this, if_neg hkn]
      -- a name bound in `rest` is `k` or is still visible behind `k`
      refine ih (fun m w hm => ?_) n hn
      by_cases hkm : k = m
      · exact hkm ▸ hk
      · exact hσ m w (by rw [Bindings.lookup_cons, if_neg hkm]; exact hm)

theorem unifyTerms_rename (hinj : InjOn ρ S) :
    ∀ (ts : List (Term V)) (vs : List V) (σ : Bindings V),
      DomIn σ S → (∀ n, Term.var n ∈ ts → n ∈ S) →
      unifyTerms (ts.map (renameTerm ρ)) vs (renameBindings ρ σ)
        = (unifyTerms ts vs σ).map (renameBindings ρ) := by
  intro ts
  induction ts with
  | nil =>
    intro vs σ _ _
    cases vs <;> simp [unifyTerms]
  | cons t ts ih =>
    intro vs σ hσ hts
    have hts' : ∀ n, Term.var n ∈ ts → n ∈ S := fun n hn => hts n (List.mem_cons_of_mem _ hn)
    cases vs with
    | nil => cases t <;> simp [unifyTerms, renameTerm]
    | cons v vs =>
      cases t with
      | const c =>
        simp only [List.map_cons, renameTerm, unifyTerms]
        split
        · exact ih vs σ hσ hts'
        · rfl
      | var n =>
        have hn : n ∈ S := hts n (List.mem_cons_self ..)
        simp only [List.map_cons, renameTerm, unifyTerms]
        rw [lookup_rename hinj σ hσ n hn]
        cases hl : σ.lookup n with
        | some w =>
          simp only
          split
          · exact ih vs σ hσ hts'
          · rfl
        | none =>
          simp only
          exact ih vs ((n, v) :: σ) (domIn_cons hn hσ) hts'

theorem unifyPred_rename (hinj : InjOn ρ S) (p : Pred V) (f : Fact V) (σ : Bindings V)
    (hσ : DomIn σ S) (hp : ∀ n, n ∈ predVars p → n ∈ S) :
    unifyPred (renamePred ρ p) f (renameBindings ρ σ)
      = (unifyPred p f σ).map (renameBindings ρ) := by
  by_cases hname : p.name = f.name
  · simp only [unifyPred, renamePred, hname, ↓reduceIte]
    exact unifyTerms_rename hinj p.terms f.args σ hσ (fun n hn => hp n (mem_termsVars.mpr hn))
  · simp only [unifyPred, renamePred, hname, ↓reduceIte, Option.map_none]

theorem solve_rename (hinj : InjOn ρ S) (facts : List (Fact V)) :
    ∀ (body : List (Pred V)) (σ : Bindings V), DomIn σ S →
      (∀ p ∈ body, ∀ n, n ∈ predVars p → n ∈ S) →
      solve facts (body.map (renamePred ρ)) (renameBindings ρ σ)
        = (solve facts body σ).map (renameBindings ρ) := by
  intro body
  induction body with
  | nil => intro σ _ _; rfl
  | cons p ps ih =>
    intro σ hσ hb
    have hp := hb p (List.mem_cons_self ..)
    have hps : ∀ q ∈ ps, ∀ n, n ∈ predVars q → n ∈ S := fun q hq => hb q (List.mem_cons_of_mem _ hq)
    simp only [List.map_cons, solve, List.map_flatMap]
    congr 1
    funext f
    rw [unifyPred_rename hinj p f σ hσ hp]
    cases hu : unifyPred p f σ with
    | none => rfl
    | some σ₁ =>
      simp only [Option.map_some]
      refine ih σ₁ (hσ.of_sound (fun n hn => hp n ?_) (unifyPred_sound p f σ σ₁ hu).2.2) hps
      rwa [termVars_eq] at hn

theorem substTerms_rename (hinj : InjOn ρ S) (σ : Bindings V) (hσ : DomIn σ S) :
    ∀ (ts : List (Term V)), (∀ n, Term.var n ∈ ts → n ∈ S) →
      substTerms (renameBindings ρ σ) (ts.map (renameTerm ρ)) = substTerms σ ts := by
  intro ts
  induction ts with
  | nil => intro _; rfl
  | cons t ts ih =>
    intro hts
    have hts' : ∀ n, Term.var n ∈ ts → n ∈ S := fun n hn => hts n (List.mem_cons_of_mem _ hn)
    cases t with
    | const c => simp only [List.map_cons, renameTerm, substTerms, ih hts']
    | var n =>
      have hn : n ∈ S := hts n (List.mem_cons_self ..)
      simp only [List.map_cons, renameTerm, substTerms, ih hts', lookup_rename hinj σ hσ n hn]

theorem substHead_rename (hinj : InjOn ρ S) (σ : Bindings V) (hσ : DomIn σ S)
    (h : Pred V) (hh : ∀ n, n ∈ predVars h → n ∈ S) :
    substHead (renamePred ρ h) (renameBindings ρ σ) = substHead h σ := by
  simp only [substHead, renamePred]
  rw [substTerms_rename hinj σ hσ h.terms (fun n hn => hh n (mem_termsVars.mpr hn))]

end Engine

section Exprs
variable {ρ : Bytes → Bytes} {S : List Bytes}

theorem stepOp_rename (cfg : EvalCfg) (hinj : InjOn ρ S) (σ : Bindings Val) (hσ : DomIn σ S)
    (st : List Val) (op : Op) (hop : ∀ n, op = .value (.var n) → n ∈ S) :
    stepOp cfg (renameBindings ρ σ) st (renameOp ρ op) = stepOp cfg σ st op := by
  cases op with
  | value t =>
    cases t with
    | var n =>
      simp only [renameOp, renameTerm, stepOp]
      rw [lookup_rename hinj σ hσ n (hop n rfl)]
    | const c => rfl
  | unary u => rfl
  | binary b => rfl

theorem runOps_rename (cfg : EvalCfg) (hinj : InjOn ρ S) (σ : Bindings Val) (hσ : DomIn σ S) :
    ∀ (e : Expr) (st : List Val), (∀ n, n ∈ exprVars e → n ∈ S) →
      runOps cfg (renameBindings ρ σ) (renameExpr ρ e) st = runOps cfg σ e st := by
  intro e
  induction e with
  | nil => intro st _; rfl
  | cons op ops ih =>
    intro st he
    have hop : ∀ n, op = .value (.var n) → n ∈ S := fun n h =>
      he n (mem_exprVars.mpr (h ▸ List.mem_cons_self ..))
    have hops : ∀ n, n ∈ exprVars ops → n ∈ S := fun n h =>
      he n (mem_exprVars.mpr (List.mem_cons_of_mem _ (mem_exprVars.mp h)))
    show (stepOp cfg (renameBindings ρ σ) st (renameOp ρ op)).bind
        (runOps cfg (renameBindings ρ σ) (renameExpr ρ ops)) = (stepOp cfg σ st op).bind (runOps cfg σ ops)
    rw [stepOp_rename cfg hinj σ hσ st op hop]
    cases stepOp cfg σ st op with
    | ok st' => exact ih st' hops
    | err c => rfl
    | panic s => rfl

theorem evalBool_rename (cfg : EvalCfg) (hinj : InjOn ρ S) (σ : Bindings Val) (hσ : DomIn σ S)
    (e : Expr) (he : ∀ n, n ∈ exprVars e → n ∈ S) :
    evalBool cfg (renameBindings ρ σ) (renameExpr ρ e) = evalBool cfg σ e := by
  unfold evalBool eval
  rw [runOps_rename cfg hinj σ hσ e [] he]

theorem checkExprs_rename (cfg : EvalCfg) (hinj : InjOn ρ S) (σ : Bindings Val) (hσ : DomIn σ S) :
    ∀ (es : List Expr), (∀ e ∈ es, ∀ n, n ∈ exprVars e → n ∈ S) →
      checkExprs (evalBool cfg) (renameBindings ρ σ) (es.map (renameExpr ρ))
        = checkExprs (evalBool cfg) σ es := by
  intro es
  induction es with
  | nil => intro _; rfl
  | cons e es ih =>
    intro hes
    simp only [List.map_cons, checkExprs]
    rw [evalBool_rename cfg hinj σ hσ e (hes e (List.mem_cons_self ..)),
      ih (fun e' he' => hes e' (List.mem_cons_of_mem _ he'))]

end Exprs

theorem applyCombos_rename (cfg : EvalCfg) {ρ : Bytes → Bytes} (r : DRule)
    (hinj : InjOn ρ (ruleVars r)) :
    ∀ (L : List (Bindings Val)) (acc : List DFact), (∀ σ ∈ L, DomIn σ (ruleVars r)) →
      applyCombos (evalBool cfg) (renameRule ρ r) (L.map (renameBindings ρ)) acc
        = applyCombos (evalBool cfg) r L acc := by
  intro L
  induction L with
  | nil => intro acc _; rfl
  | cons σ rest ih =>
    intro acc hL
    have hσ : DomIn σ (ruleVars r) := hL σ (List.mem_cons_self ..)
    have hrest : ∀ τ ∈ rest, DomIn τ (ruleVars r) := fun τ h => hL τ (List.mem_cons_of_mem _ h)
    have hce : checkExprs (evalBool cfg) (renameBindings ρ σ) (renameRule ρ r).exprs
        = checkExprs (evalBool cfg) σ r.exprs :=
      checkExprs_rename cfg hinj σ hσ r.exprs fun e he n h => mem_ruleVars.mpr (.inr (.inr ⟨e, he, h⟩))
    have hsh : substHead (renameRule ρ r).head (renameBindings ρ σ) = substHead r.head σ :=
      substHead_rename hinj σ hσ r.head fun n h => mem_ruleVars.mpr (.inl h)
    simp only [List.map_cons, applyCombos, hce, hsh]
    cases checkExprs (evalBool cfg) σ r.exprs with
    | err c => rfl
    | panic s => rfl
    | ok b =>
      cases b with
      | false => exact ih acc hrest
      | true =>
        cases substHead r.head σ with
        | none => rfl
        | some f => exact ih _ hrest

/-- **Engine level.** A renaming that is injective on the variables of a rule does
not change what `Rule.Apply` returns: same facts in the same order, same error. -/
theorem applyRule_rename (cfg : EvalCfg) (ρ : Bytes → Bytes) (r : DRule)
    (hinj : InjOn ρ (ruleVars r)) (facts acc : List DFact) :
    applyRule (evalBool cfg) (renameRule ρ r) facts acc = applyRule (evalBool cfg) r facts acc := by
  unfold applyRule
  have hb : ∀ p ∈ r.body, ∀ n, n ∈ predVars p → n ∈ ruleVars r :=
    fun p hp n h => mem_ruleVars.mpr (.inr (.inl ⟨p, hp, h⟩))
  have hs := solve_rename hinj facts r.body ([] : Bindings Val) domIn_nil hb
  have hd : ∀ σ ∈ solve facts r.body [], DomIn σ (ruleVars r) := fun σ hσ =>
    domIn_nil.of_sound (vars := bodyVars r.body) (fun n hn => by
      obtain ⟨p, hp, hn⟩ := List.mem_flatMap.mp hn
      rw [termVars_eq] at hn
      exact hb p hp n hn) (solve_sound facts r.body [] σ hσ).2.2
  show applyCombos (evalBool cfg) (renameRule ρ r)
      (solve facts (r.body.map (renamePred ρ)) (renameBindings ρ [])) acc = _
  rw [hs]
  exact applyCombos_rename cfg r hinj _ acc hd

section Transformer
variable {V E : Type} [DecidableEq V]

/-- `f` does not change what `Rule.Apply` returns for `r`: the only property of a renaming that
the lemmas from here on use. -/
def Preserves (ev : Bindings V → E → Outcome Bool) (f : Rule V E → Rule V E) (r : Rule V E) : Prop :=
  ∀ facts acc, applyRule ev (f r) facts acc = applyRule ev r facts acc

theorem stepAll_map (ev : Bindings V → E → Outcome Bool) (f : Rule V E → Rule V E)
    (facts : List (Fact V)) :
    ∀ (rules : List (Rule V E)) (acc : List (Fact V)), (∀ r ∈ rules, Preserves ev f r) →
      stepAll ev facts (rules.map f) acc = stepAll ev facts rules acc := by
  intro rules
  induction rules with
  | nil => intro acc _; rfl
  | cons r rs ih =>
    intro acc h
    simp only [List.map_cons, stepAll, h r (List.mem_cons_self ..) facts acc]
    rcases applyRule ev r facts acc with ⟨acc', _ | e⟩
    · exact ih acc' (fun r' hr' => h r' (List.mem_cons_of_mem _ hr'))
    · rfl

theorem run_map (ev : Bindings V → E → Outcome Bool) (f : Rule V E → Rule V E)
    (mf : Nat) (rules : List (Rule V E)) (h : ∀ r ∈ rules, Preserves ev f r) :
    ∀ (mi : Nat) (facts : List (Fact V)),
      run ev mf (rules.map f) mi facts = run ev mf rules mi facts := by
  intro mi
  induction mi with
  | zero => intro facts; rfl
  | succ n ih =>
    intro facts
    simp only [run, stepAll_map ev f facts rules [] h]
    rcases stepAll ev facts rules [] with ⟨new, _ | e⟩
    · simp only [ih]
    · rfl

theorem queryRule_map (ev : Bindings V → E → Outcome Bool) (f : Rule V E → Rule V E)
    (r : Rule V E) (h : Preserves ev f r) (facts : List (Fact V)) :
    queryRule ev (f r) facts = queryRule ev r facts := by
  unfold queryRule
  rw [h facts []]

end Transformer

section Auth
variable (cfg : EvalCfg) (f : DRule → DRule)

theorem mem_block_allRules_rules {b : Block} {r : DRule} (h : r ∈ b.rules) : r ∈ b.allRules :=
  List.mem_append_left _ h

theorem mem_block_allRules_query {b : Block} {c : Check} {r : DRule} (hc : c ∈ b.checks)
    (h : r ∈ c.queries) : r ∈ b.allRules :=
  List.mem_append_right _ (List.mem_flatMap.mpr ⟨c, hc, h⟩)

theorem any_queryHolds_map (facts : List DFact) :
    ∀ (qs : List DRule), (∀ q ∈ qs, Preserves (evalBool cfg) f q) →
      (qs.map f).any (queryHolds cfg facts) = qs.any (queryHolds cfg facts) := by
  intro qs
  induction qs with
  | nil => intro _; rfl
  | cons q qs ih =>
    intro h
    simp only [List.map_cons, List.any_cons, queryHolds,
      queryRule_map (evalBool cfg) f q (h q (List.mem_cons_self ..)) facts,
      ih (fun q' hq' => h q' (List.mem_cons_of_mem _ hq'))]

theorem failedChecks_map (facts : List DFact) (mk : Nat → CheckId) (cs : List Check)
    (h : ∀ c ∈ cs, ∀ q ∈ c.queries, Preserves (evalBool cfg) f q) :
    failedChecks cfg facts mk (cs.map (Check.mapRules f)) = failedChecks cfg facts mk cs :=
  (failedFrom_pointwise cfg mk (.map_right _ cs fun c hc =>
    (any_queryHolds_map cfg f facts c.queries (h c hc)).symm) 0).symm

theorem firstPolicy_map (facts : List DFact) (ps : List Policy)
    (h : ∀ p ∈ ps, ∀ q ∈ p.queries, Preserves (evalBool cfg) f q) :
    firstPolicy cfg facts (ps.map (Policy.mapRules f)) = firstPolicy cfg facts ps :=
  (firstPolicy_pointwise cfg (.map_right (Policy.mapRules f) ps fun p hp =>
    ⟨rfl, (any_queryHolds_map cfg f facts p.queries (h p hp)).symm⟩)).symm

theorem runWorld_map (lim : Limits) (w : World) (h : ∀ r ∈ w.rules, Preserves (evalBool cfg) f r) :
    runWorld cfg lim (w.mapRules f) = ((runWorld cfg lim w).1.mapRules f, (runWorld cfg lim w).2) := by
  simp only [runWorld, World.mapRules, run_map (evalBool cfg) f lim.maxFacts w.rules h]

theorem evalBlock_map (lim : Limits) (base : List DFact) (b : Block) (idx : Nat)
    (h : ∀ r ∈ b.allRules, Preserves (evalBool cfg) f r) :
    evalBlock cfg lim base (b.mapRules f) idx = evalBlock cfg lim base b idx := by
  have hr : ∀ r ∈ b.rules, Preserves (evalBool cfg) f r := fun r hr => h r (mem_block_allRules_rules hr)
  have hc : ∀ c ∈ b.checks, ∀ q ∈ c.queries, Preserves (evalBool cfg) f q :=
    fun c hc q hq => h q (mem_block_allRules_query hc hq)
  have hw := runWorld_map cfg f lim { facts := insertAll base b.facts, rules := b.rules } hr
  simp only [World.mapRules] at hw
  simp only [evalBlock, Block.mapRules, hw]
  rcases runWorld cfg lim { facts := insertAll base b.facts, rules := b.rules } with ⟨w', _ | e⟩
  · exact congrArg Except.ok (failedChecks_map cfg f w'.facts (CheckId.block idx) b.checks hc)
  · rfl

theorem blockPhase_map (lim : Limits) (base : List DFact) (bs : List Block) (idx : Nat)
    (acc : List CheckId) (h : ∀ b ∈ bs, ∀ r ∈ b.allRules, Preserves (evalBool cfg) f r) :
    blockPhase cfg lim base (bs.map (Block.mapRules f)) idx acc = blockPhase cfg lim base bs idx acc :=
  (blockPhase_pointwise cfg (.map_right _ bs fun b hb idx =>
    (evalBlock_map cfg f lim base b idx (h b hb)).symm) idx acc).symm

theorem authorityPhase_map (A : Block) (s : AuthState)
    (hA : ∀ r ∈ A.allRules, Preserves (evalBool cfg) f r)
    (hs : ∀ r ∈ s.allRules, Preserves (evalBool cfg) f r) :
    authorityPhase cfg (A.mapRules f) (s.mapRules f)
      = ((authorityPhase cfg A s).1.mapRules f, (authorityPhase cfg A s).2) := by
  have hw1 : ∀ r ∈ s.world.rules ++ A.rules, Preserves (evalBool cfg) f r := by
    intro r hr
    rcases List.mem_append.mp hr with hr | hr
    · exact hs r (List.mem_append_left _ (List.mem_append_left _ hr))
    · exact hA r (mem_block_allRules_rules hr)
  have hsc : ∀ c ∈ s.checks, ∀ q ∈ c.queries, Preserves (evalBool cfg) f q := fun c hc q hq =>
    hs q (List.mem_append_left _ (List.mem_append_right _ (List.mem_flatMap.mpr ⟨c, hc, hq⟩)))
  have hAc : ∀ c ∈ A.checks, ∀ q ∈ c.queries, Preserves (evalBool cfg) f q :=
    fun c hc q hq => hA q (mem_block_allRules_query hc hq)
  have hsp : ∀ p ∈ s.policies, ∀ q ∈ p.queries, Preserves (evalBool cfg) f q := fun p hp q hq =>
    hs q (List.mem_append_right _ (List.mem_flatMap.mpr ⟨p, hp, hq⟩))
  have hw := runWorld_map cfg f s.limits
    { facts := insertAll s.world.facts A.facts, rules := s.world.rules ++ A.rules } hw1
  simp only [World.mapRules, List.map_append] at hw
  simp only [authorityPhase, Block.mapRules, AuthState.mapRules, World.mapRules, hw]
  rcases runWorld cfg s.limits
    { facts := insertAll s.world.facts A.facts, rules := s.world.rules ++ A.rules } with ⟨w2, _ | e⟩
  · simp only [failedChecks_map cfg f w2.facts CheckId.authorizer s.checks hsc,
      failedChecks_map cfg f w2.facts (CheckId.block 0) A.checks hAc,
      firstPolicy_map cfg f w2.facts s.policies hsp]
  · rfl

theorem authorizeWith_map (pinnedReset : Bool) (tok : Token) (s : AuthState)
    (h : ∀ r ∈ tok.allRules ++ s.allRules, Preserves (evalBool cfg) f r) :
    authorizeWith cfg pinnedReset (tok.mapRules f) (s.mapRules f)
      = ((authorizeWith cfg pinnedReset tok s).1.mapRules f, (authorizeWith cfg pinnedReset tok s).2) := by
  have hA : ∀ r ∈ tok.authority.allRules, Preserves (evalBool cfg) f r := fun r hr =>
    h r (List.mem_append_left _ (List.mem_append_left _ hr))
  have hB : ∀ b ∈ tok.blocks, ∀ r ∈ b.allRules, Preserves (evalBool cfg) f r := fun b hb r hr =>
    h r (List.mem_append_left _ (List.mem_append_right _ (List.mem_flatMap.mpr ⟨b, hb, hr⟩)))
  have hs : ∀ r ∈ s.allRules, Preserves (evalBool cfg) f r := fun r hr =>
    h r (List.mem_append_right _ hr)
  have hap : authorityPhase cfg (tok.mapRules f).authority (s.mapRules f) = _ :=
    authorityPhase_map cfg f tok.authority s hA hs
  have hv : (authorizeWith cfg pinnedReset (tok.mapRules f) (s.mapRules f)).2 =
      (authorizeWith cfg pinnedReset tok s).2 := by
    rw [authorizeWith_snd, authorizeWith_snd, hap]
    rcases authorityPhase cfg tok.authority s with ⟨w, e | ap⟩
    · rfl
    · exact congrArg (finish ap.policy) (blockPhase_map cfg f s.limits w.facts tok.blocks 1 ap.failed hB)
  refine Prod.ext ?_ hv
  rw [authorizeWith_fst, authorizeWith_fst, hv, hap]
  cases pinnedReset && (authorizeWith cfg pinnedReset tok s).2.isPolicy <;> rfl

theorem query_map (s : AuthState) (q : DRule)
    (hs : ∀ r ∈ s.world.rules, Preserves (evalBool cfg) f r) (hq : Preserves (evalBool cfg) f q) :
    query cfg (s.mapRules f) (f q) = ((query cfg s q).1.mapRules f, (query cfg s q).2) := by
  have hw : runWorld cfg (s.mapRules f).limits (s.mapRules f).world = _ :=
    runWorld_map cfg f s.limits s.world hs
  refine Prod.ext ?_ ?_
  · rw [query_fst, query_fst, hw]; rfl
  · rw [query_snd, query_snd, hw]
    rcases runWorld cfg s.limits s.world with ⟨w, _ | e⟩
    · exact congrArg Except.ok (queryRule_map (evalBool cfg) f q hq w.facts)
    · rfl

end Auth

end Biscuit.Rename
