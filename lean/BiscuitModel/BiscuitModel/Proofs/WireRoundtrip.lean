/-
Proofs/WireRoundtrip — wire round trips of block content and authorizer snapshots through
the published schema (C07, C18 wire level), message by message on top of
Proofs/WireFields: the decoder's first step is `decodeFields_encode_fits`, the accessors on
the encoder's output are computed by `simp`, and nested messages are shorter than the
message that holds them (`Fits.nested`, `mapM_nested`).
-/
import BiscuitModel.Proofs.WireFields

namespace Biscuit
open Wire

theorem wire_encodeFields_nil : encodeFields [] = [] := rfl

theorem wire_encodeFields_append (fs gs : List Field) :
    encodeFields (fs ++ gs) = encodeFields fs ++ encodeFields gs :=
  encodeFields_append fs gs

theorem wire_allBytes_nil (k : Nat) : allBytes k [] = [] := rfl

/-- The step functions of `lastVarint` / `lastBytes`, named. -/
def wireLvStep (k : Nat) (acc : Option Nat) (f : Field) : Option Nat :=
  if f.num = k then (match f.val with | .varint n => some n | _ => acc) else acc
def wireLbStep (k : Nat) (acc : Option Bytes) (f : Field) : Option Bytes :=
  if f.num = k then (match f.val with | .bytes b => some b | _ => acc) else acc

theorem wire_lastVarint_eq (k : Nat) (fs : List Field) : lastVarint k fs = fs.foldl (wireLvStep k) none := rfl

theorem wire_lb_skip_v (k : Nat) : ∀ (fs : List Field) (acc : Option Bytes),
    (∀ f ∈ fs, ∃ j n, f = vField j n) → fs.foldl (wireLbStep k) acc = acc := by
  intro fs
  induction fs with
  | nil => intros; rfl
  | cons f fs ih =>
    intro acc h
    rw [List.foldl_cons, ih _ (fun g hg => h g (List.mem_cons_of_mem _ hg))]
    obtain ⟨j, n, rfl⟩ := h f List.mem_cons_self
    simp only [wireLbStep, vField]; exact ite_self _

theorem wire_int64_roundtrip (i : Int) (h : -(2^63 : Int) ≤ i ∧ i < 2^63) :
    varintToInt64 (int64ToVarint i) = i := by
  unfold varintToInt64 int64ToVarint
  by_cases hi : i ≥ 0
  · rw [if_pos hi]
    have : i.toNat < 2^63 := by omega
    rw [if_pos this]; omega
  · rw [if_neg hi]
    have : ¬ (i + 2^64).toNat < 2^63 := by omega
    rw [if_neg this]; omega

theorem wire_int64ToVarint_lt (i : Int) (h : -(2^63 : Int) ≤ i ∧ i < 2^63) : int64ToVarint i < 2^64 := by
  unfold int64ToVarint; split <;> omega

/-- An atom's field is well-formed outright: `AtomWF` bounds its byte string. -/
theorem wire_encAtom_WF (a : IAtom) (h : AtomWF a) : ∀ f ∈ encAtom a, FieldWF f := by
  cases a <;> simp only [AtomWF] at h <;>
    simp only [encAtom, List.mem_singleton, forall_eq, FieldWF, vField, bField]
  · exact ⟨by decide, by decide, by omega⟩
  · exact ⟨by decide, by decide, wire_int64ToVarint_lt _ h⟩
  · exact ⟨by decide, by decide, h⟩
  · exact ⟨by decide, by decide, h⟩
  · exact ⟨by decide, by decide, by omega⟩
  · exact ⟨by decide, by decide, by split <;> decide⟩

theorem wire_decAtomFields_enc (a : IAtom) (h : AtomWF a) : decAtomFields (encAtom a) = some a := by
  cases a with
  | «variable» n => exact congrArg (fun k => some (IAtom.variable k)) (Nat.mod_eq_of_lt h)
  | integer i => exact congrArg (fun k => some (IAtom.integer k)) (wire_int64_roundtrip _ h)
  | string n => rfl
  | date n => rfl
  | bytes b => rfl
  | bool b => cases b <;> rfl

theorem wire_lastContentIsSet_atom (a : IAtom) : lastContentIsSet (encAtom a) = false := by
  cases a <;> simp [lastContentIsSet, encAtom, vField, bField]

theorem wire_decAtom_enc (a : IAtom) (h : AtomWF a) : decAtom (encodeFields (encAtom a)) = some a := by
  rw [decAtom, decodeFields_encode_WF _ (wire_encAtom_WF a h), Option.bind_some, wire_decAtomFields_enc a h]

theorem wire_decSet_enc (l : List IAtom) (h : TermWF (.set l))
    (hl : Fits (l.map fun a => bField 1 (encodeFields (encAtom a)))) :
    decSet (encodeFields (l.map fun a => bField 1 (encodeFields (encAtom a)))) = some l := by
  obtain ⟨hne, _, hwf, hk⟩ := h
  have hm := mapM_nested (k := 1) (enc := encAtom) (dec := decAtom) hl (by simp)
    (fun a ha _ => wire_decAtom_enc a (hwf a ha))
  rw [decSet, decodeFields_encode_fits hl (by simp)]
  simp only [Option.bind_eq_bind, Option.bind_some, allBytes_map_bField, if_true, hm]
  cases l with
  | nil => exact absurd rfl hne
  | cons a rest =>
    obtain ⟨h1, h2⟩ := hk
    cases a with
    | «variable» n => exact h1.elim
    | integer i => exact if_pos h2
    | string n => exact if_pos h2
    | date n => exact if_pos h2
    | bytes b => exact if_pos h2
    | bool b => exact if_pos h2

theorem wire_decTerm_enc (t : ITerm) (h : TermWF t) (hl : Fits (encTerm t)) :
    decTerm (encodeFields (encTerm t)) = some t := by
  cases t with
  | atom a =>
    rw [decTerm, encTerm, decodeFields_encode_WF _ (wire_encAtom_WF a h), Option.bind_some, decTermFields,
      wire_lastContentIsSet_atom, if_neg (by decide), wire_decAtomFields_enc a h]
    rfl
  | set l =>
    have hs := wire_decSet_enc l h (hl.nested (k := 7) (by simp [encTerm]))
    rw [decTerm, decodeFields_encode_fits hl (by simp [encTerm])]
    simp [encTerm, decTermFields, lastContentIsSet, hs]

theorem wire_decPred_enc (p : IPred) (h : PredWF p) (hl : Fits (encPred p)) :
    decPred (encodeFields (encPred p)) = some p := by
  have hm := mapM_nested (k := 2) (enc := encTerm) (dec := decTerm) hl (by simp [encPred])
    (fun t ht => wire_decTerm_enc t (h.2.2 t ht))
  rw [decPred, decodeFields_encode_fits hl (by simp [encPred, h.1])]
  simp [encPred, hm]

theorem wire_decKind_enc (k : Nat) (h : k < 2^64) : decKind (encodeFields [vField 1 k]) = some k := by
  rw [decKind, decodeFields_encode_WF _ (by simpa [FieldWF, vField] using h)]
  simp

theorem wire_decOp_enc (o : IOp) (h : OpWF o) (hl : Fits (encOp o)) :
    decOp (encodeFields (encOp o)) = some o := by
  rw [decOp, decodeFields_encode_fits hl (by cases o <;> simp [encOp])]
  cases o with
  | value t => simp [encOp, bField, wire_decTerm_enc t h (hl.nested (k := 1) (by simp [encOp]))]
  | unary k => simp [encOp, bField, wire_decKind_enc k (Nat.lt_trans h (by decide))]
  | binary k => simp [encOp, bField, wire_decKind_enc k (Nat.lt_trans h (by decide))]

theorem wire_decExpr_enc (e : List IOp) (h : ∀ o ∈ e, OpWF o) (hl : Fits (encExpr e)) :
    decExpr (encodeFields (encExpr e)) = some e := by
  have hm := mapM_nested (k := 1) (enc := encOp) (dec := decOp) hl (by simp [encExpr])
    (fun o ho => wire_decOp_enc o (h o ho))
  rw [decExpr, decodeFields_encode_fits hl (by simp [encExpr])]
  simp [encExpr, hm]

theorem wire_decRule_enc (r : IRule) (h : RuleWF r) (hl : Fits (encRule r)) :
    decRule (encodeFields (encRule r)) = some r := by
  obtain ⟨hh, _, hb, _, he⟩ := h
  have hhead := wire_decPred_enc _ hh (hl.nested List.mem_cons_self)
  have hbody := mapM_nested (k := 2) (enc := encPred) (dec := decPred) hl (by simp [encRule])
    (fun p hp => wire_decPred_enc p (hb p hp))
  have hexprs := mapM_nested (k := 3) (enc := encExpr) (dec := decExpr) hl (by simp [encRule])
    (fun e hx => wire_decExpr_enc e (he e hx).2)
  rw [decRule, decodeFields_encode_fits hl (by simp [encRule, or_imp, forall_and])]
  simp [encRule, hhead, hbody, hexprs]

theorem wire_decCheck_enc (c : ICheck) (h : CheckWF c) (hl : Fits (encCheck c)) :
    decCheck (encodeFields (encCheck c)) = some c := by
  have hm := mapM_nested (k := 1) (enc := encRule) (dec := decRule) hl (by simp [encCheck])
    (fun q hq => wire_decRule_enc q (h.2 q hq))
  rw [decCheck, decodeFields_encode_fits hl (by simp [encCheck])]
  simp [encCheck, hm]

theorem wire_decFact_enc (p : IPred) (h : PredWF p) (hl : Fits (encFact p)) :
    decFact (encodeFields (encFact p)) = some p := by
  rw [decFact, decodeFields_encode_fits hl (by simp [encFact])]
  simp [encFact, wire_decPred_enc p h (hl.nested (k := 1) (by simp [encFact]))]

theorem wire_decodeBlock_enc (b : BlockMsg) (h : BlockWF b) : decodeBlock (encodeBlock b) = some b := by
  obtain ⟨_, _, _, hver, _, hfacts, _, hrules, _, hchecks, hl⟩ := h
  have hl : Fits (encBlock b) := hl
  have hmf := mapM_nested (k := 4) (enc := encFact) (dec := decFact) hl (by simp [encBlock])
    (fun p hp => wire_decFact_enc p (hfacts p hp))
  have hmr := mapM_nested (k := 5) (enc := encRule) (dec := decRule) hl (by simp [encBlock])
    (fun r hr => wire_decRule_enc r (hrules r hr))
  have hmc := mapM_nested (k := 6) (enc := encCheck) (dec := decCheck) hl (by simp [encBlock])
    (fun c hc => wire_decCheck_enc c (hchecks c hc))
  have hv : (lastVarint 3 (encBlock b)).map (· % 2^32) = b.version := by
    rw [show lastVarint 3 (encBlock b) = b.version by simp [encBlock]]; exact map_mod_of_lt _ _ hver
  rw [decodeBlock, encodeBlock, decodeFields_encode_fits hl (by
    simp [encBlock, or_imp, forall_and]; exact fun v hv => Nat.lt_trans (hver v hv) (by decide))]
  simp only [Option.bind_eq_bind, Option.bind_some, hv]
  simp [encBlock, hmf, hmr, hmc]

theorem wire_decPolicy_enc (p : IPolicy) (hk : p.kind < 2^31) (hq : ∀ q ∈ p.queries, RuleWF q)
    (hl : Fits (encPolicy p)) :
    decPolicy (encodeFields (encPolicy p)) = some p := by
  have hm := mapM_nested (k := 1) (enc := encRule) (dec := decRule) hl (by simp [encPolicy])
    (fun q hq' => wire_decRule_enc q (hq q hq'))
  rw [decPolicy, decodeFields_encode_fits hl (by simp [encPolicy, or_imp, forall_and]; omega)]
  simp [encPolicy, hm]

theorem wire_decodePolicies_enc (m : PoliciesMsg)
    (hver : ∀ v, m.version = some v → v < 2^32)
    (hfacts : ∀ f ∈ m.facts, PredWF f) (hrules : ∀ r ∈ m.rules, RuleWF r)
    (hchecks : ∀ c ∈ m.checks, CheckWF c)
    (hpol : ∀ p ∈ m.policies, p.kind < 2^31 ∧ ∀ q ∈ p.queries, RuleWF q)
    (hl : (encodePolicies m).length < 2^64) :
    decodePolicies (encodePolicies m) = some m := by
  have hl : Fits (encPolicies m) := hl
  have hmf := mapM_nested (k := 3) (enc := encFact) (dec := decFact) hl (by simp [encPolicies])
    (fun p hp => wire_decFact_enc p (hfacts p hp))
  have hmr := mapM_nested (k := 4) (enc := encRule) (dec := decRule) hl (by simp [encPolicies])
    (fun r hr => wire_decRule_enc r (hrules r hr))
  have hmc := mapM_nested (k := 5) (enc := encCheck) (dec := decCheck) hl (by simp [encPolicies])
    (fun c hc => wire_decCheck_enc c (hchecks c hc))
  have hmp := mapM_nested (k := 6) (enc := encPolicy) (dec := decPolicy) hl (by simp [encPolicies])
    (fun p hp => wire_decPolicy_enc p (hpol p hp).1 (hpol p hp).2)
  have hv : (lastVarint 2 (encPolicies m)).map (· % 2^32) = m.version := by
    rw [show lastVarint 2 (encPolicies m) = m.version by simp [encPolicies]]; exact map_mod_of_lt _ _ hver
  rw [decodePolicies, encodePolicies, decodeFields_encode_fits hl (by
    simp [encPolicies, or_imp, forall_and]; exact fun v hv => Nat.lt_trans (hver v hv) (by decide))]
  simp only [Option.bind_eq_bind, Option.bind_some, hv]
  simp [encPolicies, hmf, hmr, hmc, hmp]

end Biscuit
