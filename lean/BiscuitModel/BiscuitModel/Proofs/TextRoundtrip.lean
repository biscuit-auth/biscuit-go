/-
Proofs/TextRoundtrip — lemmas for the character-level round trip of whole statements
(`Props/C14Text`): which tokens the reference rendering (`Model/Render`, `Model/Printer`)
produces.

* `all_joinWith`, `all_renderItems`: a Boolean property that holds of the separator holds of all
  tokens of a separated list exactly when it holds of all tokens of the pieces.
* the fixed tokens of the rendering (punctuation, `<-`, `or`, the keywords, `length`, the infix
  operators) are `C14Lexer.TokWF`; those with a fixed token are stated as Boolean facts
  `tokWF t = true` for rewriting in `Props/C14Text`, the two that range over a policy kind or an
  operator (`tokWF_policy`, `binTok_tokWF`) as `TokWF`.
-/
import BiscuitModel.Props.C14Lexer
import BiscuitModel.Model.Render

namespace Biscuit.TextRoundtrip
open Biscuit Biscuit.Grammar Biscuit.Printer Biscuit.Render Biscuit.C14Lexer

theorem all_joinWith (p : Tok → Bool) (sep : Tok) (hsep : p sep = true) (xs : List (List Tok)) :
    (joinWith sep xs).all p = xs.all (·.all p) := by
  induction xs with
  | nil => rfl
  | cons x ys ih =>
    cases ys with
    | nil => simp [joinWith]
    | cons y ys => simp only [joinWith, List.all_append, List.all_cons, hsep, Bool.true_and, ih]

theorem all_renderItems (p : Tok → Bool) (hsemi : p (.punct ';') = true) (its : List PItem) :
    (renderItems its).all p = its.all fun it => (renderItem it).all p := by
  induction its with
  | nil => rfl
  | cons it its ih => simp only [renderItems, List.all_append, List.all_cons, hsemi, Bool.true_and, ih]

theorem tokWF_lparen : tokWF (.punct '(') = true := by decide +kernel
theorem tokWF_rparen : tokWF (.punct ')') = true := by decide +kernel
theorem tokWF_lbracket : tokWF (.punct '[') = true := by decide +kernel
theorem tokWF_rbracket : tokWF (.punct ']') = true := by decide +kernel
theorem tokWF_comma : tokWF (.punct ',') = true := by decide +kernel
theorem tokWF_semicolon : tokWF (.punct ';') = true := by decide +kernel
theorem tokWF_bang : tokWF (.punct '!') = true := by decide +kernel
theorem tokWF_dot : tokWF .dot = true := by decide +kernel
theorem tokWF_arrow : tokWF .arrow = true := by decide +kernel
theorem tokWF_or : tokWF (.ident "or") = true := by decide +kernel
theorem tokWF_length : tokWF (.func "length") = true := by decide +kernel
theorem tokWF_check : tokWF (.keyword "check if") = true := by decide +kernel
theorem tokWF_policy (allow : Bool) : TokWF (.keyword (policyKeyword allow)) := by
  cases allow <;> decide +kernel

theorem binTok_tokWF (op : BinOp) (t : Tok) (h : binTok op = some t) : TokWF t := by
  cases op <;> simp only [binTok, Option.some.injEq, reduceCtorEq] at h <;> subst h <;> decide +kernel

end Biscuit.TextRoundtrip
