/-
Proofs/WireAttenuation — lemmas for C02 at the wire level (Props/C02Wire).

`resolveTokenL` resolves EVERY block of a token through the token's whole cumulative
symbol table, the tables of later blocks included — the literal Go behaviour. A string
index of an early block that no earlier table declares therefore changes its meaning
when a later block declares a symbol at that index. The gate of `Unmarshal`
(`blocksDeclared`, Model/Unmarshal) excludes such tokens: under the gate, appending a table
does not change what any earlier block resolves to (Props/C02Wire). Here: the gate
predicates, the token's cumulative table, and `mapMOutcome`.

The lemmas are stated with `blocksDeclaredV`, the gate written out with one clause per
place an index can sit — variable numbers included, whose names also live in the symbol
table and are also read through `symStrGo`. It is the gate of the code: since fix c9a639e
`checkDeclaredSymbols` looks at variables too (`atomDeclared`, Model/Unmarshal), and each
`…DeclaredV` equals its model counterpart (`atomDeclaredV_eq` … `ruleDeclaredV_eq` below,
`C02Wire.blocksDeclaredV_eq`).
-/
import BiscuitModel.Model.Pipeline
import BiscuitModel.Proofs.Symbols

namespace Biscuit
open Wire

def atomDeclaredV (t : SymTable) : IAtom → Bool
  | .string i => symDeclared t i
  | .variable i => symDeclared t i
  | _ => true

def termDeclaredV (t : SymTable) : ITerm → Bool
  | .atom a => atomDeclaredV t a
  | .set l => l.all (atomDeclaredV t)

def predDeclaredV (t : SymTable) (p : IPred) : Bool :=
  symDeclared t p.name && p.terms.all (termDeclaredV t)

def opDeclaredV (t : SymTable) : IOp → Bool
  | .value v => termDeclaredV t v
  | _ => true

def ruleDeclaredV (t : SymTable) (r : IRule) : Bool :=
  predDeclaredV t r.head && r.body.all (predDeclaredV t) &&
  r.exprs.all fun e => e.all (opDeclaredV t)

def checkDeclaredV (t : SymTable) (c : ICheck) : Bool := c.queries.all (ruleDeclaredV t)

def blockDeclaredV (t : SymTable) (m : BlockMsg) : Bool :=
  m.facts.all (predDeclaredV t) && m.rules.all (ruleDeclaredV t) &&
  m.checks.all (checkDeclaredV t)

/-- `blocksDeclared` (Model/Unmarshal) over the clauses above. -/
def blocksDeclaredV (t : SymTable) : List BlockMsg → Bool
  | [] => true
  | m :: ms => let t' := extendTable t m.symbols; blockDeclaredV t' m && blocksDeclaredV t' ms

/-- The table `New` / `Append` / `Unmarshal` hold after reading block messages in turn. -/
def C02Gate.readTable (base : SymTable) (msgs : List BlockMsg) : SymTable :=
  msgs.foldl (fun t m => extendTable t m.symbols) base

theorem resolveTokenL_eq (p : Bool) (msgs : List BlockMsg) :
    resolveTokenL p msgs = mapMOutcome (resolveBlockL p (C02Gate.readTable [] msgs)) msgs := rfl

theorem atomDeclaredV_eq (t : SymTable) : atomDeclaredV t = atomDeclared t := by
  funext a; cases a <;> rfl

theorem termDeclaredV_eq (t : SymTable) : termDeclaredV t = termDeclared t := by
  funext x; cases x <;> simp only [termDeclaredV, termDeclared, atomDeclaredV_eq]

theorem predDeclaredV_eq (t : SymTable) : predDeclaredV t = predDeclared t := by
  funext p; simp only [predDeclaredV, predDeclared, termDeclaredV_eq]

/-- `opDeclaredV` is the `match` inside `ruleDeclared`. -/
theorem opDeclaredV_eq (t : SymTable) :
    opDeclaredV t = fun o => match o with | .value v => termDeclared t v | _ => true := by
  funext o; cases o <;> simp only [opDeclaredV, termDeclaredV_eq]

theorem ruleDeclaredV_eq (t : SymTable) : ruleDeclaredV t = ruleDeclared t := by
  funext r; simp only [ruleDeclaredV, ruleDeclared, predDeclaredV_eq, opDeclaredV_eq]; rfl

theorem foldl_prefix {α β : Type} (f : List α → β → List α) (hf : ∀ t b, ∃ ext, f t b = t ++ ext)
    (l : List β) : ∀ t, ∃ ext, l.foldl f t = t ++ ext := by
  induction l with
  | nil => exact fun t => ⟨[], by simp⟩
  | cons b l ih =>
    intro t
    obtain ⟨e1, h1⟩ := hf t b
    obtain ⟨e2, h2⟩ := ih (f t b)
    exact ⟨e1 ++ e2, by rw [List.foldl_cons, h2, h1, List.append_assoc]⟩

theorem extendTable_prefix (t : SymTable) (new : List Bytes) : ∃ ext, extendTable t new = t ++ ext :=
  foldl_prefix _ (fun t s => (growsTo_symInsert t s).prefix) new t

theorem readTable_prefix (msgs : List BlockMsg) (t : SymTable) : ∃ ext, C02Gate.readTable t msgs = t ++ ext :=
  foldl_prefix (fun t (m : BlockMsg) => extendTable t m.symbols) (fun t m => extendTable_prefix t m.symbols)
    msgs t

theorem readTable_append (t : SymTable) (msgs : List BlockMsg) (b : BlockMsg) :
    C02Gate.readTable t (msgs ++ [b]) = extendTable (C02Gate.readTable t msgs) b.symbols := by
  simp [C02Gate.readTable, List.foldl_append]

theorem symDeclared_mono (t ext : SymTable) (i : Nat) (h : symDeclared t i = true) :
    symDeclared (t ++ ext) i = true := by
  unfold symDeclared at h ⊢
  obtain ⟨x, hx⟩ := Option.isSome_iff_exists.mp h
  rw [sym_append_prefix_stable t ext i x hx]; rfl

/-! The gate predicates are monotone in the table. -/

theorem atomDeclaredV_mono (t ext : SymTable) (a : IAtom) (h : atomDeclaredV t a = true) :
    atomDeclaredV (t ++ ext) a = true := by
  cases a with
  | «variable» i => exact symDeclared_mono t ext i h
  | string i => exact symDeclared_mono t ext i h
  | _ => rfl

theorem termDeclaredV_mono (t ext : SymTable) (x : ITerm) (h : termDeclaredV t x = true) :
    termDeclaredV (t ++ ext) x = true := by
  cases x with
  | atom a => exact atomDeclaredV_mono t ext a h
  | set l => exact List.all_imp (atomDeclaredV_mono t ext) l h

theorem predDeclaredV_mono (t ext : SymTable) (q : IPred) (h : predDeclaredV t q = true) :
    predDeclaredV (t ++ ext) q = true := by
  simp only [predDeclaredV, Bool.and_eq_true] at h ⊢
  exact ⟨symDeclared_mono t ext _ h.1, List.all_imp (termDeclaredV_mono t ext) _ h.2⟩

theorem opDeclaredV_mono (t ext : SymTable) (o : IOp) (h : opDeclaredV t o = true) :
    opDeclaredV (t ++ ext) o = true := by
  cases o with
  | value v => exact termDeclaredV_mono t ext v h
  | _ => rfl

theorem ruleDeclaredV_mono (t ext : SymTable) (r : IRule) (h : ruleDeclaredV t r = true) :
    ruleDeclaredV (t ++ ext) r = true := by
  simp only [ruleDeclaredV, Bool.and_eq_true] at h ⊢
  exact ⟨⟨predDeclaredV_mono t ext _ h.1.1, List.all_imp (predDeclaredV_mono t ext) _ h.1.2⟩,
    List.all_imp (fun e he => List.all_imp (opDeclaredV_mono t ext) e he) _ h.2⟩

theorem checkDeclaredV_mono (t ext : SymTable) (c : ICheck) (h : checkDeclaredV t c = true) :
    checkDeclaredV (t ++ ext) c = true :=
  List.all_imp (ruleDeclaredV_mono t ext) _ h

theorem blockDeclaredV_mono (t ext : SymTable) (m : BlockMsg) (h : blockDeclaredV t m = true) :
    blockDeclaredV (t ++ ext) m = true := by
  simp only [blockDeclaredV, Bool.and_eq_true] at h ⊢
  exact ⟨⟨List.all_imp (predDeclaredV_mono t ext) _ h.1.1, List.all_imp (ruleDeclaredV_mono t ext) _ h.1.2⟩,
    List.all_imp (checkDeclaredV_mono t ext) _ h.2⟩

def DeclMono {β : Type} (decl : SymTable → β → Bool) : Prop :=
  ∀ t ext b, decl t b = true → decl (t ++ ext) b = true

theorem declMono_sym : DeclMono symDeclared := fun t ext i h => symDeclared_mono t ext i h

/-- Under the gate every block is declared in the token's final table (it was declared in the table as
it stood when the block was read, which the final table extends). -/
theorem blocksDeclaredV_cum (msgs : List BlockMsg) : ∀ t : SymTable, blocksDeclaredV t msgs = true →
    ∀ m ∈ msgs, blockDeclaredV (C02Gate.readTable t msgs) m = true := by
  induction msgs with
  | nil => intro _ _ m hm; cases hm
  | cons m0 ms ih =>
    intro t h m hm
    simp only [blocksDeclaredV, Bool.and_eq_true] at h
    rcases List.mem_cons.mp hm with rfl | hm'
    · obtain ⟨e, he⟩ := readTable_prefix ms (extendTable t m.symbols)
      show blockDeclaredV (C02Gate.readTable (extendTable t m.symbols) ms) m = true
      rw [he]
      exact blockDeclaredV_mono _ e m h.1
    · exact ih _ h.2 m hm'

theorem mapMOutcome_congr {α β : Type} {f g : α → Outcome β} (l : List α)
    (h : ∀ x ∈ l, f x = g x) : mapMOutcome f l = mapMOutcome g l := by
  induction l with
  | nil => rfl
  | cons x xs ih =>
    simp only [mapMOutcome]
    rw [h x (List.mem_cons_self), ih fun y hy => h y (List.mem_cons_of_mem _ hy)]

theorem mapMOutcome_congr_all {α β : Type} {f g : α → Outcome β} {d : α → Bool}
    (h : ∀ x, d x = true → f x = g x) (l : List α) (hl : l.all d = true) :
    mapMOutcome f l = mapMOutcome g l :=
  mapMOutcome_congr l fun x hx => h x (List.all_eq_true.mp hl x hx)

theorem mapMOutcome_eq_ok_iff {α β : Type} {f : α → Outcome β} {l : List α} {ys : List β} :
    mapMOutcome f l = .ok ys ↔ l.map f = ys.map .ok := by
  induction l generalizing ys with
  | nil => cases ys <;> simp [mapMOutcome]
  | cons x xs ih =>
    cases ys with
    | nil => simp only [mapMOutcome]; cases f x <;> cases mapMOutcome f xs <;> simp [Outcome.bind]
    | cons y ys =>
      rw [List.map_cons, List.map_cons, List.cons.injEq, ← ih]
      simp only [mapMOutcome]
      cases f x <;> cases mapMOutcome f xs <;> simp [Outcome.bind]

theorem mapMOutcome_append_ok {α β : Type} (f : α → Outcome β) (l1 l2 : List α) (r : List β)
    (h : mapMOutcome f (l1 ++ l2) = .ok r) :
    ∃ r1 r2, mapMOutcome f l1 = .ok r1 ∧ mapMOutcome f l2 = .ok r2 ∧ r = r1 ++ r2 := by
  rw [mapMOutcome_eq_ok_iff, List.map_append] at h
  obtain ⟨r1, r2, rfl, h1, h2⟩ := List.map_eq_append_iff.mp h.symm
  exact ⟨r1, r2, mapMOutcome_eq_ok_iff.mpr h1.symm, mapMOutcome_eq_ok_iff.mpr h2.symm, rfl⟩

theorem mapMOutcome_singleton_ok {α β : Type} (f : α → Outcome β) (b : α) (r : List β)
    (h : mapMOutcome f [b] = .ok r) : ∃ y, f b = .ok y ∧ r = [y] := by
  obtain ⟨y, rfl, hy⟩ := List.map_eq_singleton_iff.mp (mapMOutcome_eq_ok_iff.mp h).symm
  exact ⟨y, hy.symm, rfl⟩

theorem mapMOutcome_length {α β : Type} (f : α → Outcome β) (l : List α) (r : List β)
    (h : mapMOutcome f l = .ok r) : r.length = l.length := by
  simpa using (congrArg List.length (mapMOutcome_eq_ok_iff.mp h)).symm

end Biscuit
