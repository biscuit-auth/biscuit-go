/-
Proofs/Snapshot — string-level save/load lemmas for C18: what holds of an authorizer that has
only seen content additions (`SnapInv`), and that such an authorizer is saved and loaded back
unchanged. `C18.afterAdds` (a fresh authorizer after the content additions of a history, the
other operations skipped) is declared here, not in Props/C18, because `snap_inv_afterAdds`
is about it.
-/
import BiscuitModel.Model.Authorizer
import BiscuitModel.Proofs.Datalog

namespace Biscuit

theorem insertAll_eq_append_of_nodup : ∀ (fs acc : List DFact), (acc ++ fs).Nodup → insertAll acc fs = acc ++ fs
  | [], acc, _ => by simp [insertAll]
  | f :: fs, acc, h => by
    have hf : f ∉ acc := by
      intro hm
      rw [List.nodup_append] at h
      exact h.2.2 f hm f List.mem_cons_self rfl
    have hi : insertFact acc f = acc ++ [f] := by
      unfold insertFact
      rw [if_neg (by simpa using hf)]
    rw [insertAll, hi]
    have h' : ((acc ++ [f]) ++ fs).Nodup := by simpa [List.append_assoc] using h
    rw [insertAll_eq_append_of_nodup fs (acc ++ [f]) h']
    simp [List.append_assoc]

/-- What saving `s` and loading into a fresh authorizer needs to give `s` back: not evaluated
(so `save` answers), the fresh base world and limits, and a duplicate-free fact list
(`insertAll` would drop a repeated fact). -/
def SnapInv (lim : Limits) (s : AuthState) : Prop :=
  s.dirty = false ∧ s.baseWorld = World.empty ∧ s.limits = lim ∧ s.world.facts.Nodup

namespace C18

def afterAdds (lim : Limits) (ops : List AuthOp) : AuthState :=
  ops.foldl (fun s op => match op with
    | .addFact f => addFact s f
    | .addRule r => addRule s r
    | .addCheck c => addCheck s c
    | .addPolicy p => addPolicy s p
    | _ => s) (AuthState.fresh lim)

end C18

theorem snap_inv_afterAdds (lim : Limits) (ops : List AuthOp) : SnapInv lim (C18.afterAdds lim ops) := by
  unfold C18.afterAdds
  have h : SnapInv lim (AuthState.fresh lim) := ⟨rfl, rfl, rfl, List.nodup_nil⟩
  generalize AuthState.fresh lim = s at h ⊢
  induction ops generalizing s with
  | nil => exact h
  | cons op ops ih =>
    refine ih _ ?_
    obtain ⟨h1, h2, h3, h4⟩ := h
    cases op
    case addFact f => exact ⟨h1, h2, h3, nodup_insertFact _ _ h4⟩
    all_goals exact ⟨h1, h2, h3, h4⟩

theorem snap_save_of_inv (lim : Limits) (s : AuthState) (h : SnapInv lim s) :
    save s = some { facts := s.world.facts, rules := s.world.rules, checks := s.checks, policies := s.policies } := by
  unfold save; rw [h.1]; rfl

theorem snap_load_of_inv (lim : Limits) (s : AuthState) (h : SnapInv lim s) :
    load (AuthState.fresh lim)
      { facts := s.world.facts, rules := s.world.rules, checks := s.checks, policies := s.policies } = s := by
  obtain ⟨h1, h2, h3, h4⟩ := h
  obtain ⟨⟨wf, wr⟩, bw, cs, ps, d, l⟩ := s
  simp only at h1 h2 h3 h4
  subst h1 h2 h3
  simp only [load, AuthState.fresh, World.empty, List.nil_append]
  rw [insertAll_eq_append_of_nodup wf [] (by simpa using h4)]
  simp

end Biscuit
