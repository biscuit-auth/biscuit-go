/-
Proofs/Perm — engine and authorizer seen through *sets*: helper lemmas for C12 (order
independence) and C04Content (content decides).

Engine: whether a rule application, a round or a run errs depends only on the set of facts
and the set of rules it is given, and so does the set of facts it produces. A run started
anywhere between a set of facts and its closure succeeds whenever the run from the facts
does, within the same limits, and reaches the same closure (`run_between`); a permuted start
is the special case. Props/C12 gets from equal members back to permutations through
`List.perm_ext_iff_of_nodup` (the lists are duplicate-free).

Authorizer: the verdict is a function of the authority scope, the set of rules, the set of
queries at each check position, the ordered policies and the limits (`authorize_congr`).
Permuting the checks keeps the class of the verdict (`authorize_checks_cls`); `C12.VClass` and
`C12.cls` are declared here, not in Props/C12, because that lemma is stated with them.
-/
import BiscuitModel.Proofs.Decision

namespace Biscuit

-- `[DecidableEq V]` is in the statement of every lemma of its section, needed there or not
set_option linter.unusedSectionVars false

section Engine
variable {V E : Type} [DecidableEq V]

theorem solve_mem_mono {S S' : List (Fact V)} (h : ∀ f ∈ S, f ∈ S') :
    ∀ (body : List (Pred V)) (σ τ : Bindings V), τ ∈ solve S body σ → τ ∈ solve S' body σ := by
  intro body
  induction body with
  | nil => intro σ τ hτ; simpa [solve] using hτ
  | cons p ps ih =>
    intro σ τ hτ
    simp only [solve, List.mem_flatMap] at hτ ⊢
    obtain ⟨f, hf, hτ⟩ := hτ
    refine ⟨f, h f hf, ?_⟩
    cases hu : unifyPred p f σ with
    | none => simp [hu] at hτ
    | some σ₁ =>
      rw [hu] at hτ
      exact ih σ₁ τ hτ

theorem solve_mem_congr {S S' : List (Fact V)} (h : ∀ f, f ∈ S ↔ f ∈ S')
    (body : List (Pred V)) (σ τ : Bindings V) : τ ∈ solve S body σ ↔ τ ∈ solve S' body σ :=
  ⟨solve_mem_mono (fun f => (h f).mp) body σ τ, solve_mem_mono (fun f => (h f).mpr) body σ τ⟩

/-- A combination the consumer loop of `Rule.Apply` gets past without aborting. -/
def comboOk (ev : Bindings V → E → Outcome Bool) (r : Rule V E) (σ : Bindings V) : Bool :=
  match checkExprs ev σ r.exprs with
  | .err _ => false
  | .panic _ => false
  | .ok false => true
  | .ok true => (substHead r.head σ).isSome

/-- The consumer loop aborts iff *some* combination aborts: independent of the order
of the combinations and of the accumulator. -/
theorem applyCombos_ok_iff (ev : Bindings V → E → Outcome Bool) (r : Rule V E)
    (cs : List (Bindings V)) (acc : List (Fact V)) :
    (applyCombos ev r cs acc).2 = none ↔ ∀ σ ∈ cs, comboOk ev r σ = true := by
  fun_induction applyCombos ev r cs acc
  case case1 => simp
  case case2 hc => simp [comboOk, hc]
  case case3 hc => simp [comboOk, hc]
  case case4 hc ih => simp [ih, comboOk, hc]
  case case5 hc hg => simp [comboOk, hc, hg]
  case case6 hc g hg ih => simp [ih, comboOk, hc, hg]

theorem applyCombos_nodup (ev : Bindings V → E → Outcome Bool) (r : Rule V E)
    (cs : List (Bindings V)) (acc : List (Fact V)) (h : acc.Nodup) :
    (applyCombos ev r cs acc).1.Nodup := by
  fun_induction applyCombos ev r cs acc
  case case4 ih => exact ih h
  case case6 ih => exact ih (nodup_insertFact _ _ h)
  all_goals exact h

theorem applyRule_ok_iff (ev : Bindings V → E → Outcome Bool) (r : Rule V E)
    (S acc : List (Fact V)) :
    (applyRule ev r S acc).2 = none ↔ ∀ σ ∈ solve S r.body [], comboOk ev r σ = true :=
  applyCombos_ok_iff ev r _ acc

theorem applyRule_ok_congr (ev : Bindings V → E → Outcome Bool) (r : Rule V E)
    {S S' : List (Fact V)} (h : ∀ f, f ∈ S ↔ f ∈ S') (acc acc' : List (Fact V)) :
    (applyRule ev r S acc).2 = none ↔ (applyRule ev r S' acc').2 = none := by
  rw [applyRule_ok_iff, applyRule_ok_iff]
  simp only [solve_mem_congr h]

theorem eq_pair_none {α β : Type} (p : α × Option β) (h : p.2 = none) : p = (p.1, none) :=
  Prod.ext rfl h

theorem stepAll_ok_iff (ev : Bindings V → E → Outcome Bool) (S : List (Fact V))
    (P : List (Rule V E)) (acc : List (Fact V)) :
    (stepAll ev S P acc).2 = none ↔
      ∀ r ∈ P, ∀ σ ∈ solve S r.body [], comboOk ev r σ = true := by
  fun_induction stepAll ev S P acc
  case case1 => simp
  case case2 r rs acc acc' hr ih =>
    rw [ih, List.forall_mem_cons, ← applyRule_ok_iff ev r S acc, hr]; simp
  case case3 r rs acc acc' e hr =>
    rw [List.forall_mem_cons, ← applyRule_ok_iff ev r S acc, hr]; simp

theorem Sat.mono {ev : Bindings V → E → Outcome Bool} {r : Rule V E} {S S' : List (Fact V)}
    (h : ∀ f ∈ S, f ∈ S') (σ : Bindings V) (hs : Sat ev r S σ) : Sat ev r S' σ :=
  ⟨fun p hp => (hs.body p hp).imp fun g hg => ⟨hg.1, h g hg.2⟩, hs.dom, hs.exprs⟩

theorem Sat.congr {ev : Bindings V → E → Outcome Bool} {r : Rule V E} {S S' : List (Fact V)}
    (h : ∀ f, f ∈ S ↔ f ∈ S') (σ : Bindings V) : Sat ev r S σ ↔ Sat ev r S' σ :=
  ⟨Sat.mono (fun f => (h f).mp) σ, Sat.mono (fun f => (h f).mpr) σ⟩

theorem derivable_between (ev : Bindings V → E → Outcome Bool) {P P' : List (Rule V E)}
    (hP : ∀ r, r ∈ P ↔ r ∈ P') {F F' : List (Fact V)} (hsub : ∀ g ∈ F, g ∈ F')
    (hder : ∀ g ∈ F', Derivable ev P F g) (f : Fact V) :
    Derivable ev P' F' f ↔ Derivable ev P F f :=
  ⟨derivable_trans ev (fun r hr => (hP r).mpr hr) hder f,
   derivable_trans ev (fun r hr => (hP r).mp hr) (fun g hg => .base (hsub g hg)) f⟩

/-- **Closure absorption**: `closure (closure F ∪ G) = closure (F ∪ G)`, `W` listing `closure F`. -/
theorem closure_absorb (ev : Bindings V → E → Outcome Bool) (P : List (Rule V E))
    (F W G : List (Fact V)) (hW : ∀ g, g ∈ W ↔ Derivable ev P F g) (f : Fact V) :
    Derivable ev P (W ++ G) f ↔ Derivable ev P (F ++ G) f := by
  apply derivable_between ev (fun _ => Iff.rfl)
  · intro g hg
    rcases List.mem_append.mp hg with hg | hg
    · exact List.mem_append_left _ ((hW g).mpr (Derivable.base hg))
    · exact List.mem_append_right _ hg
  · intro g hg
    rcases List.mem_append.mp hg with hg | hg
    · exact Derivable.mono_facts (fun a ha => List.mem_append_left _ ha) g ((hW g).mp hg)
    · exact Derivable.base (List.mem_append_right _ hg)

theorem stepAll_ok_of_subset (ev : Bindings V → E → Outcome Bool) {S S' : List (Fact V)}
    {P P' : List (Rule V E)} (hS : ∀ f ∈ S', f ∈ S) (hP : ∀ r ∈ P', r ∈ P)
    (acc acc' : List (Fact V)) (h : (stepAll ev S P acc).2 = none) :
    (stepAll ev S' P' acc').2 = none := by
  rw [stepAll_ok_iff] at h ⊢
  intro r hr σ hσ
  exact h r (hP r hr) σ (solve_mem_mono hS _ _ _ hσ)

theorem stepAll_mono (ev : Bindings V → E → Outcome Bool) (hev : EvRespects ev)
    {S S' : List (Fact V)} {P P' : List (Rule V E)} (hS : ∀ f ∈ S, f ∈ S') (hP : ∀ r ∈ P, r ∈ P')
    (new new' : List (Fact V)) (h : stepAll ev S P [] = (new, none))
    (h' : stepAll ev S' P' [] = (new', none)) : ∀ f ∈ new, f ∈ new' := by
  intro f hf
  rw [stepAll_spec ev hev S P [] new h f] at hf
  rw [stepAll_spec ev hev S' P' [] new' h' f]
  rcases hf with hf | ⟨r, hr, σ, hs, hh⟩
  · exact Or.inl hf
  · exact Or.inr ⟨r, hP r hr, σ, Sat.mono hS σ hs, hh⟩

/-- A fixpoint `W` absorbs the rounds started inside it: no rule errs (every combination met is
one the round from `W` meets) and nothing outside `W` is derived. -/
theorem stepAll_inside (ev : Bindings V → E → Outcome Bool) (hev : EvRespects ev)
    {P P' : List (Rule V E)} (hP : ∀ r ∈ P', r ∈ P) {W newW F' : List (Fact V)}
    (hW : stepAll ev W P [] = (newW, none)) (hnewW : ∀ f ∈ newW, f ∈ W)
    (hsup : ∀ f ∈ F', f ∈ W) :
    stepAll ev F' P' [] = ((stepAll ev F' P' []).1, none) ∧
      ∀ f ∈ (stepAll ev F' P' []).1, f ∈ W := by
  have hs' := eq_pair_none _ (stepAll_ok_of_subset ev hsup hP [] [] (by rw [hW]))
  exact ⟨hs', fun f hf => hnewW f (stepAll_mono ev hev hsup hP _ _ hs' hW f hf)⟩

/-- Running again from the result of a successful run, with a subset of the rules,
stops after one round and returns the very same list. -/
theorem run_again (ev : Bindings V → E → Outcome Bool) (hev : EvRespects ev)
    (mf : Nat) (P P' : List (Rule V E)) (hP : ∀ r ∈ P', r ∈ P) (n : Nat) (F W : List (Fact V))
    (h : run ev mf P n F = (W, none)) : run ev mf P' n W = (W, none) := by
  cases n with
  | zero => simp [run] at h
  | succ n =>
    obtain ⟨new, hs, hnew⟩ := run_fixpoint ev mf P (n + 1) F W h
    have hlt := run_ok_lt ev mf P (n + 1) F W h
    obtain ⟨hs', hsub⟩ := stepAll_inside ev hev hP hs hnew (fun _ hf => hf)
    rw [run, hs']
    simp only [insertAll_of_subset _ W hsub]
    rw [if_neg (by omega)]
    simp

/-- **Runs started between a set of facts and its closure.** If the run from `F` succeeds
with result `W`, then the run from any duplicate-free `F'` with `F ⊆ F' ⊆ W`, with the same
set of rules and the same limits, succeeds too: it errs nowhere (every combination it meets is
one the last round of the first run met), stays below the fact limit and needs no more rounds. -/
theorem run_between_ok (ev : Bindings V → E → Outcome Bool) (hev : EvRespects ev) (mf : Nat)
    {P P' : List (Rule V E)} (hP : ∀ r, r ∈ P ↔ r ∈ P') :
    ∀ (n : Nat) (F W F' : List (Fact V)), run ev mf P n F = (W, none) → F'.Nodup →
      (∀ f ∈ F, f ∈ F') → (∀ f ∈ F', f ∈ W) → ∃ W', run ev mf P' n F' = (W', none) := by
  intro n
  induction n with
  | zero => intro F W F' h; simp [run] at h
  | succ n ih =>
    intro F W F' h hn hsub hsup
    obtain ⟨newW, hsW, hnewW⟩ := run_fixpoint ev mf P (n + 1) F W h
    have hlt := run_ok_lt ev mf P (n + 1) F W h
    obtain ⟨hs', hnew'⟩ :=
      stepAll_inside ev hev (fun r hr => (hP r).mpr hr) hsW hnewW hsup
    have hsup1 : ∀ f ∈ insertAll F' (stepAll ev F' P' []).1, f ∈ W := by
      intro f hf
      rcases (mem_insertAll _ _ f).mp hf with hf | hf
      · exact hsup f hf
      · exact hnew' f hf
    have hn1 := nodup_insertAll (stepAll ev F' P' []).1 F' hn
    have hlen1 : (insertAll F' (stepAll ev F' P' []).1).length < mf :=
      Nat.lt_of_le_of_lt (hn1.length_le_of_subset hsup1) hlt
    rw [run, hs']
    simp only
    rw [if_neg (by omega)]
    by_cases hlen : (insertAll F' (stepAll ev F' P' []).1).length = F'.length
    · rw [if_pos hlen]; exact ⟨_, rfl⟩
    · rw [if_neg hlen]
      -- the second run goes on: take the first round of the first run apart, branch by branch of `run`
      simp only [run] at h
      split at h
      · simp at h  -- a rule erred: not a successful run
      · next new hs =>
        split at h
        · simp at h  -- fact limit reached: not a successful run
        · split at h
          · next heq =>
            -- fixpoint: the first run had already reached its closure, so has the second
            exfalso
            apply hlen
            simp only [Prod.mk.injEq, and_true] at h
            rw [insertAll_eq_of_length F new heq] at h
            subst h
            rw [insertAll_of_subset _ F' (fun f hf => hsub f (hnew' f hf))]
          · -- another round: both runs go on, from starts that are again between `F` and `W`
            apply ih (insertAll F new) W _ h hn1
            · intro f hf
              rw [mem_insertAll] at hf ⊢
              rcases hf with hf | hf
              · exact Or.inl (hsub f hf)
              · exact Or.inr (stepAll_mono ev hev hsub (fun r hr => (hP r).mp hr) _ _ hs hs' f hf)
            · exact hsup1

/-- … and it reaches the same closure. -/
theorem run_between (ev : Bindings V → E → Outcome Bool) (hev : EvRespects ev) (mf : Nat)
    {P P' : List (Rule V E)} (hP : ∀ r, r ∈ P ↔ r ∈ P')
    (n : Nat) (F W F' : List (Fact V)) (h : run ev mf P n F = (W, none)) (hn : F'.Nodup)
    (hsub : ∀ f ∈ F, f ∈ F') (hsup : ∀ f ∈ F', f ∈ W) :
    ∃ W', run ev mf P' n F' = (W', none) ∧ W'.Nodup ∧ ∀ f, f ∈ W' ↔ f ∈ W := by
  obtain ⟨W', h'⟩ := run_between_ok ev hev mf hP n F W F' h hn hsub hsup
  refine ⟨W', h', run_nodup ev mf P' n F' W' hn h', fun f => ?_⟩
  have hd := derivable_between ev hP hsub (fun g hg => run_sound ev hev mf P n F W h g (hsup g hg)) f
  exact ⟨fun hf => run_complete ev hev mf P n F W h f (hd.mp (run_sound ev hev mf P' n F' W' h' f hf)),
    fun hf => run_complete ev hev mf P' n F' W' h' f (hd.mpr (run_sound ev hev mf P n F W h f hf))⟩

end Engine

open C12 (Forall2)

/-- Same queries / policies / blocks as sets. -/
def SameQueries (c c' : Check) : Prop := ∀ q, q ∈ c.queries ↔ q ∈ c'.queries
def SamePolicy (p p' : Policy) : Prop := p.kind = p'.kind ∧ ∀ q, q ∈ p.queries ↔ q ∈ p'.queries
def SameBlock (b b' : Block) : Prop :=
  (∀ f, f ∈ b.facts ↔ f ∈ b'.facts) ∧ (∀ r, r ∈ b.rules ↔ r ∈ b'.rules) ∧
    Forall2 SameQueries b.checks b'.checks

theorem SameQueries.refl (c : Check) : SameQueries c c := fun _ => Iff.rfl

theorem SamePolicy.refl (p : Policy) : SamePolicy p p := ⟨rfl, fun _ => Iff.rfl⟩

theorem SameBlock.refl (b : Block) : SameBlock b b :=
  ⟨fun _ => Iff.rfl, fun _ => Iff.rfl, .refl SameQueries.refl _⟩

section Auth
variable (cfg : EvalCfg)

theorem any_queryHolds_congr {W W' : List DFact} (hW : ∀ f, f ∈ W ↔ f ∈ W')
    {qs qs' : List DRule} (hq : ∀ q, q ∈ qs ↔ q ∈ qs')
    (h : ∀ q ∈ qs, (applyRule (evalBool cfg) q W []).2 = none) :
    qs.any (queryHolds cfg W) = qs'.any (queryHolds cfg W') := by
  have h' : ∀ q ∈ qs', (applyRule (evalBool cfg) q W' []).2 = none := fun q hq' =>
    (applyRule_ok_congr _ q hW [] []).mp (h q ((hq q).mpr hq'))
  rw [Bool.eq_iff_iff, any_queryHolds_iff cfg W (fun g => g ∈ W) (fun _ => Iff.rfl) qs h,
    any_queryHolds_iff cfg W' (fun g => g ∈ W) (fun f => (hW f).symm) qs' h']
  simp only [hq]

theorem failedChecks_congr {W W' : List DFact} (hW : ∀ f, f ∈ W ↔ f ∈ W') (mk : Nat → CheckId)
    {cs cs' : List Check} (hc : Forall2 SameQueries cs cs')
    (h : ∀ c ∈ cs, ∀ q ∈ c.queries, (applyRule (evalBool cfg) q W []).2 = none) :
    failedChecks cfg W mk cs = failedChecks cfg W' mk cs' := by
  unfold failedChecks
  apply failedFrom_pointwise
  exact hc.imp_mem fun c hcm c' hcc' => any_queryHolds_congr cfg hW hcc' (h c hcm)

theorem firstPolicy_congr {W W' : List DFact} (hW : ∀ f, f ∈ W ↔ f ∈ W')
    {ps ps' : List Policy} (hp : Forall2 SamePolicy ps ps')
    (h : ∀ p ∈ ps, ∀ q ∈ p.queries, (applyRule (evalBool cfg) q W []).2 = none) :
    firstPolicy cfg W ps = firstPolicy cfg W' ps' :=
  firstPolicy_pointwise cfg (hp.imp_mem fun p hpm _ hpp =>
    ⟨hpp.1, any_queryHolds_congr cfg hW hpp.2 (h p hpm)⟩)

theorem runWorld_between (lim : Limits) (W W' v : World) (hn' : W'.facts.Nodup)
    (hsub : ∀ f ∈ W.facts, f ∈ W'.facts) (hsup : ∀ f ∈ W'.facts, f ∈ v.facts)
    (hR : ∀ r, r ∈ W.rules ↔ r ∈ W'.rules) (h : runWorld cfg lim W = (v, none)) :
    ∃ v', runWorld cfg lim W' = (v', none) ∧ v'.facts.Nodup ∧ ∀ f, f ∈ v.facts ↔ f ∈ v'.facts := by
  obtain ⟨hrun, _⟩ := runWorld_run cfg lim W v none h
  obtain ⟨F', hrun', hN', hmem⟩ := run_between (evalBool cfg) (evalBool_respects cfg) lim.maxFacts hR
    lim.maxIter _ _ _ hrun hn' hsub hsup
  exact ⟨_, runWorld_of_run cfg lim W' F' none hrun', hN', fun f => (hmem f).symm⟩

theorem evalBlock_congr (lim : Limits) {base base' : List DFact} (hn' : base'.Nodup)
    (hB : ∀ f, f ∈ base ↔ f ∈ base') {b b' : Block} (hb : SameBlock b b') (idx : Nat)
    (h : ∃ wb, runWorld cfg lim { facts := insertAll base b.facts, rules := b.rules } = (wb, none) ∧
      ∀ c ∈ b.checks, ∀ q ∈ c.queries, (applyRule (evalBool cfg) q wb.facts []).2 = none) :
    evalBlock cfg lim base b idx = evalBlock cfg lim base' b' idx := by
  obtain ⟨wb, hrun, hq⟩ := h
  have hF : ∀ f, f ∈ insertAll base b.facts ↔ f ∈ insertAll base' b'.facts := fun f => by
    rw [mem_insertAll, mem_insertAll, hB f, hb.1 f]
  obtain ⟨wb', hrun', _, hmem⟩ := runWorld_between cfg lim
    { facts := insertAll base b.facts, rules := b.rules }
    { facts := insertAll base' b'.facts, rules := b'.rules } wb
    (nodup_insertAll _ _ hn') (fun f => (hF f).mp)
    (fun f hf => (run_subset (h := (runWorld_run cfg lim _ wb none hrun).1)) f ((hF f).mpr hf))
    hb.2.1 hrun
  rw [evalBlock_of_run cfg lim base b idx wb hrun, evalBlock_of_run cfg lim base' b' idx wb' hrun',
    failedChecks_congr cfg hmem _ hb.2.2 hq]

theorem blockPhase_congr (lim : Limits) {base base' : List DFact} (hn' : base'.Nodup)
    (hB : ∀ f, f ∈ base ↔ f ∈ base') {bs bs' : List Block} (hbs : Forall2 SameBlock bs bs')
    (hc : BlocksComplete cfg lim base bs) (idx : Nat) (acc : List CheckId) :
    blockPhase cfg lim base bs idx acc = blockPhase cfg lim base' bs' idx acc :=
  blockPhase_pointwise cfg (hbs.imp_mem fun b hb _ hbb' idx =>
    evalBlock_congr cfg lim hn' hB hbb' idx (hc b hb)) idx acc

/-- **The verdict is a function of content.** Two presentations `(tok, s)` and `(tok', s')`: the
same authority-level rules as a set; the authority-level facts of the second lie between those of
the first and the first's authority scope; checks and blocks with the same members position by
position; policies in the same order; same limits. Inside the fragment for the first, same verdict
(in particular the runs of the second succeed within the same limits). Order independence
(`C12.authorize_perm`) and "content decides" (`authorize_between`) are instances. -/
theorem authorize_congr (tok tok' : Token) (s s' : AuthState)
    (hf : WithinFragment cfg tok s) (hn' : s'.world.facts.Nodup)
    (hR : ∀ r, r ∈ s.world.rules ++ tok.authority.rules ↔ r ∈ s'.world.rules ++ tok'.authority.rules)
    (hsub : ∀ g, g ∈ s.world.facts ∨ g ∈ tok.authority.facts →
      g ∈ s'.world.facts ∨ g ∈ tok'.authority.facts)
    (hsup : ∀ g, g ∈ s'.world.facts ∨ g ∈ tok'.authority.facts → authorityScope cfg tok.authority s g)
    (hA : Forall2 SameQueries tok.authority.checks tok'.authority.checks)
    (hbs : Forall2 SameBlock tok.blocks tok'.blocks)
    (hc : Forall2 SameQueries s.checks s'.checks)
    (hp : Forall2 SamePolicy s.policies s'.policies) (hl : s.limits = s'.limits) :
    (authorize cfg tok s).2 = (authorize cfg tok' s').2 := by
  obtain ⟨w, hw⟩ := hf.authorityRun
  obtain ⟨hqc, hqp⟩ := hf.authorityQueries w hw
  have hscope := authorityRun_spec cfg tok.authority s w hw
  obtain ⟨w', hw', hN', hmem⟩ := runWorld_between cfg s.limits
    { facts := insertAll s.world.facts tok.authority.facts,
      rules := s.world.rules ++ tok.authority.rules }
    { facts := insertAll s'.world.facts tok'.authority.facts,
      rules := s'.world.rules ++ tok'.authority.rules } w
    (nodup_insertAll _ _ hn')
    (fun f hf' => (mem_insertAll ..).mpr (hsub f ((mem_insertAll ..).mp hf')))
    (fun f hf' => (hscope f).mpr (hsup f ((mem_insertAll ..).mp hf'))) hR hw
  rw [hl] at hw'
  rw [authorize_snd_of_run cfg tok s w hw, authorize_snd_of_run cfg tok' s' w' hw', ← hl,
    firstPolicy_congr cfg hmem hp hqp,
    failedChecks_congr cfg hmem _ hc (fun c hc' => hqc c (List.mem_append_left _ hc')),
    failedChecks_congr cfg hmem _ hA (fun c hc' => hqc c (List.mem_append_right _ hc')),
    blockPhase_congr cfg s.limits hN' hmem hbs (hf.blockRuns w hw)]

theorem failedFrom_length (W : List DFact) (mk : Nat → CheckId) :
    ∀ (cs : List Check) (i : Nat),
    (failedFrom cfg W mk cs i).length = cs.countP (fun c => !checkHolds cfg W c)
  | [], _ => rfl
  | c :: cs, i => by
    simp only [failedFrom, List.countP_cons]
    cases hc : checkHolds cfg W c with
    | true => simpa using failedFrom_length W mk cs (i + 1)
    | false => simpa using failedFrom_length W mk cs (i + 1)

theorem failedChecks_length_perm (W : List DFact) (mk mk' : Nat → CheckId) {cs cs' : List Check}
    (h : cs.Perm cs') :
    (failedChecks cfg W mk cs).length = (failedChecks cfg W mk' cs').length := by
  unfold failedChecks
  rw [failedFrom_length, failedFrom_length, h.countP_eq]

def ChecksPermuted (b b' : Block) : Prop :=
  b.facts = b'.facts ∧ b.rules = b'.rules ∧ b.checks.Perm b'.checks

theorem evalBlock_length (lim : Limits) (base : List DFact) {b b' : Block}
    (hb : ChecksPermuted b b') (idx idx' : Nat) :
    (evalBlock cfg lim base b idx).map List.length = (evalBlock cfg lim base b' idx').map List.length := by
  obtain ⟨h1, h2, h3⟩ := hb
  simp only [evalBlock, ← h1, ← h2]
  cases hr : runWorld cfg lim { facts := insertAll base b.facts, rules := b.rules } with
  | mk wb e =>
    cases e with
    | some e => rfl
    | none =>
      simp only [Except.map]
      rw [failedChecks_length_perm cfg wb.facts _ (CheckId.block idx') h3]

theorem blockPhase_length (lim : Limits) (base : List DFact) {bs bs' : List Block}
    (hbs : Forall2 ChecksPermuted bs bs') :
    ∀ (idx idx' : Nat) (acc acc' : List CheckId), acc.length = acc'.length →
    (blockPhase cfg lim base bs idx acc).map List.length =
      (blockPhase cfg lim base bs' idx' acc').map List.length := by
  induction hbs with
  | nil => intro idx idx' acc acc' h; simp only [blockPhase, Except.map, h]
  | @cons b b' l l' hb _ ih =>
    intro idx idx' acc acc' h
    simp only [blockPhase]
    have he := evalBlock_length cfg lim base hb idx idx'
    cases h1 : evalBlock cfg lim base b idx with
    | error e =>
      cases h2 : evalBlock cfg lim base b' idx' with
      | error e' => rw [h1, h2] at he; exact he
      | ok f' => rw [h1, h2] at he; cases he
    | ok f =>
      cases h2 : evalBlock cfg lim base b' idx' with
      | error e' => rw [h1, h2] at he; cases he
      | ok f' =>
        rw [h1, h2] at he
        simp only [Except.map, Except.ok.injEq] at he
        exact ih _ _ _ _ (by simp only [List.length_append, h, he])

namespace C12

/-- Verdict class: failed-check identifiers are positional, so under a permutation
of the checks only their number is comparable. -/
inductive VClass
  | ok | denied | noMatch | checksFailed (n : Nat) | runError
  deriving DecidableEq, Repr

def cls : Verdict → VClass
  | .ok => .ok
  | .denied => .denied
  | .noMatch => .noMatch
  | .checksFailed ids => .checksFailed ids.length
  | .runError _ => .runError

end C12

theorem cls_finish (pol : Option PolicyKind) (r r' : Except RunErr (List CheckId))
    (h : r.map List.length = r'.map List.length) : C12.cls (finish pol r) = C12.cls (finish pol r') := by
  -- the class is a function of the error or the number of failures
  have key : ∀ r, C12.cls (finish pol r) =
      match r.map List.length with
      | .error _ => .runError
      | .ok 0 => C12.cls (policyVerdict pol)
      | .ok (n + 1) => .checksFailed (n + 1) := by
    intro r
    rcases r with e | _ | ⟨a, t⟩ <;> rfl
  rw [key, key, h]

/-- Permuting the checks of the authorizer, of the authority block and of each later
block keeps the class of the verdict (no fragment hypothesis is needed). -/
theorem authorize_checks_cls (A A' : Block) (bs bs' : List Block) (s : AuthState)
    (cs' : List Check) (hA : ChecksPermuted A A') (hbs : Forall2 ChecksPermuted bs bs')
    (hc : s.checks.Perm cs') :
    C12.cls (authorize cfg ⟨A, bs⟩ s).2 = C12.cls (authorize cfg ⟨A', bs'⟩ { s with checks := cs' }).2 := by
  obtain ⟨h1, h2, h3⟩ := hA
  rw [authorize, authorize, authorizeWith_snd, authorizeWith_snd]
  -- both authority phases perform the same run
  simp only [authorityPhase, ← h1, ← h2]
  rcases runWorld cfg s.limits
      { facts := insertAll s.world.facts A.facts, rules := s.world.rules ++ A.rules } with ⟨w, _ | e⟩
  · apply cls_finish
    apply blockPhase_length cfg _ _ hbs
    simp only [List.length_append]
    rw [failedChecks_length_perm cfg w.facts _ CheckId.authorizer hc,
      failedChecks_length_perm cfg w.facts _ (CheckId.block 0) h3]
  · rfl

/-- Asks less than the fragment: only that the authority-level run succeeds. The second run is
`run_again`. -/
theorem authorize_twice_run (tok : Token) (s : AuthState) (w : World)
    (hw : runWorld cfg s.limits
      { facts := insertAll s.world.facts tok.authority.facts,
        rules := s.world.rules ++ tok.authority.rules } = (w, none)) :
    (authorize cfg tok (authorize cfg tok s).1).2 = (authorize cfg tok s).2 := by
  obtain ⟨hrun, (hwr : w.rules = s.world.rules ++ tok.authority.rules)⟩ :=
    runWorld_run cfg _ _ w none hw
  have hsubA : ∀ f ∈ tok.authority.facts, f ∈ w.facts := fun f hf =>
    (run_subset (h := hrun)) f ((mem_insertAll _ _ f).mpr (Or.inr hf))
  have hagain := run_again (evalBool cfg) (evalBool_respects cfg) s.limits.maxFacts
    (s.world.rules ++ tok.authority.rules) (w.rules ++ tok.authority.rules)
    (fun r hr => (List.mem_append.mp (hwr ▸ hr : r ∈ _ ++ tok.authority.rules)).elim id
      (List.mem_append_right _))
    s.limits.maxIter _ w.facts hrun
  have hw1 : runWorld cfg s.limits
      { facts := insertAll w.facts tok.authority.facts, rules := w.rules ++ tok.authority.rules } =
      ({ facts := w.facts, rules := w.rules ++ tok.authority.rules }, none) := by
    rw [insertAll_of_subset _ _ hsubA]
    exact runWorld_of_run cfg s.limits { facts := w.facts, rules := w.rules ++ tok.authority.rules }
      w.facts none hagain
  rw [authorize_fst_of_run cfg tok s w hw,
    authorize_snd_of_run cfg tok { s with world := w, dirty := true } _ hw1,
    authorize_snd_of_run cfg tok s w hw]

end Auth

end Biscuit
