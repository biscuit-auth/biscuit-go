/-
Proofs/Content — helper lemmas for Props/C04Content: the verdict follows from the
content the authorizer holds, not from the path by which the content arrived.

`load` is the fold of the `add*` operations (`foldl_addFact` … `foldl_addPolicy`, put
together in `C04Content.load_eq_addAll`). An authorizer whose facts lie
between those of another and what they entail in the authority scope, with the same rules,
checks, policies and limits, gives the same verdict (`authorize_between`, an instance of
`authorize_congr` of Proofs/Perm); the state left by a first `Authorize` is of this kind
(`authorize_fst_world`, used in `C04Content.authorize_after_load`). The engine fact behind it
is `run_between` of Proofs/Perm.
-/
import BiscuitModel.Proofs.Perm

namespace Biscuit

/-- Typing a snapshot's content in, one `add*` call per item. -/
def addAll (s : AuthState) (snap : Snapshot) : AuthState :=
  snap.policies.foldl addPolicy
    (snap.checks.foldl addCheck (snap.rules.foldl addRule (snap.facts.foldl addFact s)))

theorem foldl_addFact : ∀ (fs : List DFact) (s : AuthState),
    fs.foldl addFact s = { s with world := { s.world with facts := insertAll s.world.facts fs } }
  | [], _ => rfl
  | f :: fs, s => by rw [List.foldl_cons, foldl_addFact fs]; rfl

theorem foldl_addRule : ∀ (rs : List DRule) (s : AuthState),
    rs.foldl addRule s = { s with world := { s.world with rules := s.world.rules ++ rs } }
  | [], s => by simp
  | r :: rs, s => by
    rw [List.foldl_cons, foldl_addRule rs]
    simp [addRule]

theorem foldl_addCheck : ∀ (cs : List Check) (s : AuthState),
    cs.foldl addCheck s = { s with checks := s.checks ++ cs }
  | [], s => by simp
  | c :: cs, s => by
    rw [List.foldl_cons, foldl_addCheck cs]
    simp [addCheck]

theorem foldl_addPolicy : ∀ (ps : List Policy) (s : AuthState),
    ps.foldl addPolicy s = { s with policies := s.policies ++ ps }
  | [], s => by simp
  | p :: ps, s => by
    rw [List.foldl_cons, foldl_addPolicy ps]
    simp [addPolicy]

theorem authorityScope_mono (cfg : EvalCfg) (A : Block) (s s' : AuthState)
    (hF : ∀ g ∈ s.world.facts, g ∈ s'.world.facts) (hR : ∀ r ∈ s.world.rules, r ∈ s'.world.rules)
    (f : DFact) (h : authorityScope cfg A s f) : authorityScope cfg A s' f := by
  unfold authorityScope at h ⊢
  refine DerivableP.mono (fun r hr => ?_) (fun g hg => hg.imp_left (hF g)) f h
  rcases List.mem_append.mp hr with hr | hr
  · exact List.mem_append_left _ (hR r hr)
  · exact List.mem_append_right _ hr

section Auth
variable (cfg : EvalCfg)

/-- **Content decides.** The fragment hypothesis is asked of `s` only: that the runs of `u`
succeed within the same limits is part of the conclusion. -/
theorem authorize_between (tok : Token) (s u : AuthState)
    (hf : WithinFragment cfg tok s) (hnu : u.world.facts.Nodup)
    (hR : ∀ r, r ∈ s.world.rules ++ tok.authority.rules ↔ r ∈ u.world.rules ++ tok.authority.rules)
    (hsub : ∀ g ∈ s.world.facts, g ∈ u.world.facts)
    (hsup : ∀ g ∈ u.world.facts, authorityScope cfg tok.authority s g)
    (hc : s.checks = u.checks) (hp : s.policies = u.policies) (hl : s.limits = u.limits) :
    (authorize cfg tok u).2 = (authorize cfg tok s).2 :=
  (authorize_congr cfg tok tok s u hf hnu hR (fun g hg => hg.imp_left (hsub g))
    (fun g hg => hg.elim (hsup g) (fun h => DerivableP.base (Or.inr h)))
    (.refl SameQueries.refl _) (.refl SameBlock.refl _)
    (hc ▸ .refl SameQueries.refl _) (hp ▸ .refl SamePolicy.refl _) hl).symm

theorem authorize_fst_world (tok : Token) (s : AuthState) (w : World)
    (hw : runWorld cfg s.limits
      { facts := insertAll s.world.facts tok.authority.facts,
        rules := s.world.rules ++ tok.authority.rules } = (w, none)) :
    (authorize cfg tok s).1 = { s with world := w, dirty := true } ∧
    w.rules = s.world.rules ++ tok.authority.rules ∧
    (∀ g, g ∈ w.facts ↔ authorityScope cfg tok.authority s g) ∧
    (∀ g ∈ s.world.facts, g ∈ w.facts) ∧
    (s.world.facts.Nodup → w.facts.Nodup) := by
  obtain ⟨hrun, hr⟩ := runWorld_run cfg _ _ w none hw
  refine ⟨authorize_fst_of_run cfg tok s w hw, hr, authorityRun_spec cfg tok.authority s w hw, ?_, ?_⟩
  · intro g hg
    exact (run_subset (h := hrun)) g ((mem_insertAll _ _ g).mpr (Or.inl hg))
  · intro hn
    exact run_nodup (hF := nodup_insertAll _ _ hn) (h := hrun)

theorem addFact_eq_load (s : AuthState) (f : DFact) :
    addFact s f = load s { facts := [f], rules := [], checks := [], policies := [] } := by
  simp [addFact, load, insertAll]

theorem addRule_eq_load (s : AuthState) (r : DRule) :
    addRule s r = load s { facts := [], rules := [r], checks := [], policies := [] } := by
  simp [addRule, load, insertAll]

theorem addCheck_eq_load (s : AuthState) (c : Check) :
    addCheck s c = load s { facts := [], rules := [], checks := [c], policies := [] } := by
  simp [addCheck, load, insertAll]

theorem addPolicy_eq_load (s : AuthState) (p : Policy) :
    addPolicy s p = load s { facts := [], rules := [], checks := [], policies := [p] } := by
  simp [addPolicy, load, insertAll]

end Auth

/-! A Boolean test that implies `WithinFragment`, for the non-vacuity examples of
Props/C04Content. -/

def queriesComplete (cfg : EvalCfg) (facts : List DFact) (qss : List (List DRule)) : Bool :=
  qss.all fun qs => qs.all fun q => (applyRule (evalBool cfg) q facts []).2.isNone

def withinFragmentB (cfg : EvalCfg) (tok : Token) (s : AuthState) : Bool :=
  match runWorld cfg s.limits
      { facts := insertAll s.world.facts tok.authority.facts,
        rules := s.world.rules ++ tok.authority.rules } with
  | (_, some _) => false
  | (w, none) =>
    queriesComplete cfg w.facts ((s.checks ++ tok.authority.checks).map (·.queries)) &&
    queriesComplete cfg w.facts (s.policies.map (·.queries)) &&
    tok.blocks.all fun b =>
      match runWorld cfg s.limits { facts := insertAll w.facts b.facts, rules := b.rules } with
      | (_, some _) => false
      | (wb, none) => queriesComplete cfg wb.facts (b.checks.map (·.queries))

theorem queriesComplete_spec (cfg : EvalCfg) (facts : List DFact) (qss : List (List DRule))
    (h : queriesComplete cfg facts qss = true) :
    ∀ qs ∈ qss, ∀ q ∈ qs, (applyRule (evalBool cfg) q facts []).2 = none := by
  intro qs hqs q hq
  simp only [queriesComplete, List.all_eq_true] at h
  exact Option.isNone_iff_eq_none.mp (h qs hqs q hq)

theorem withinFragment_of_test (cfg : EvalCfg) (tok : Token) (s : AuthState)
    (h : withinFragmentB cfg tok s = true) : WithinFragment cfg tok s := by
  unfold withinFragmentB at h
  split at h
  · cases h
  · next w hw =>
    simp only [Bool.and_eq_true, List.all_eq_true] at h
    obtain ⟨⟨h1, h2⟩, h3⟩ := h
    have key : ∀ w', runWorld cfg s.limits
        { facts := insertAll s.world.facts tok.authority.facts,
          rules := s.world.rules ++ tok.authority.rules } = (w', none) → w' = w := by
      intro w' hw'
      rw [hw] at hw'
      exact (Prod.mk.inj hw').1.symm
    refine ⟨⟨w, hw⟩, ?_, ?_⟩
    · intro w' hw'
      rw [key w' hw']
      exact ⟨fun c hc q hq => queriesComplete_spec cfg _ _ h1 c.queries (List.mem_map_of_mem hc) q hq,
        fun p hp q hq => queriesComplete_spec cfg _ _ h2 p.queries (List.mem_map_of_mem hp) q hq⟩
    · intro w' hw' b hb
      rw [key w' hw']
      have hb' := h3 b hb
      split at hb'
      · cases hb'
      · next wb hwb =>
        exact ⟨wb, hwb, fun c hc q hq =>
          queriesComplete_spec cfg _ _ hb' c.queries (List.mem_map_of_mem hc) q hq⟩

end Biscuit
