/-
Proofs/WireEnvelope — the envelope-level wire round trip
(`decodeBiscuit (encodeBiscuit e)`), used by C09, C16, C17.

The round trip is characterised exactly: decoding the encoding yields the envelope
(varints truncated to their schema width) when every varint and every length is below 2^70
(ten varint bytes), and fails otherwise.
-/
import BiscuitModel.Proofs.WireFields

namespace Biscuit.Wire
open Biscuit

/-! A decoder reads the field list first, which succeeds exactly when every field of the
message is small, and then finds the fields of the normalised message. So "small" for a message
is: all its own fields are, and so are the nested messages the decoder goes on to read. -/

def normPK (k : PublicKeyMsg) : PublicKeyMsg := { k with algorithm := k.algorithm % 2^64 }
def smallPK (k : PublicKeyMsg) : Bool := (encPublicKey k).all smallField

theorem decPublicKey_encode (k : PublicKeyMsg) :
    decPublicKey (encodeFields (encPublicKey k)) = if smallPK k then some (normPK k) else none := by
  have hn : (encPublicKey k).map normField = encPublicKey (normPK k) := rfl
  rw [decPublicKey, decodeFields_encode _ (by simp [encPublicKey]), hn, smallPK]
  cases (encPublicKey k).all smallField
  · rfl
  · simp [encPublicKey]

def normSB (sb : SignedBlockMsg) : SignedBlockMsg := { sb with nextKey := normPK sb.nextKey }
def smallSB (sb : SignedBlockMsg) : Bool := (encSignedBlock sb).all smallField && smallPK sb.nextKey

theorem decSignedBlock_encode (sb : SignedBlockMsg) :
    decSignedBlock (encodeFields (encSignedBlock sb)) = if smallSB sb then some (normSB sb) else none := by
  have hn : (encSignedBlock sb).map normField = encSignedBlock sb := rfl
  rw [decSignedBlock, decodeFields_encode _ (by simp [encSignedBlock]), hn, smallSB]
  cases (encSignedBlock sb).all smallField
  · rfl
  · cases hk : smallPK sb.nextKey <;> simp [encSignedBlock, decPublicKey_encode, hk, normSB]

def smallProof (p : ProofMsg) : Bool := (encProof p).all smallField

theorem decProof_encode (p : ProofMsg) :
    decProof (encodeFields (encProof p)) = if smallProof p then some p else none := by
  have hn : (encProof p).map normField = encProof p := by cases p <;> rfl
  rw [decProof, decodeFields_encode _ (by cases p <;> simp [encProof]), hn, smallProof]
  cases (encProof p).all smallField
  · rfl
  · cases p <;> simp [encProof, bField]

def smallEnv (e : BiscuitMsg) : Bool :=
  (encBiscuit e).all smallField && smallSB e.authority && e.blocks.all smallSB && smallProof e.proof

/-- What comes back: varints truncated to their schema width. -/
def normEnv (e : BiscuitMsg) : BiscuitMsg :=
  { rootKeyId := e.rootKeyId.map (· % 2^32), authority := normSB e.authority,
    blocks := e.blocks.map normSB, proof := e.proof }

theorem encBiscuit_map_norm (e : BiscuitMsg) :
    (encBiscuit e).map normField = encBiscuit { e with rootKeyId := e.rootKeyId.map (· % 2^64) } := by
  obtain ⟨id, a, bl, p⟩ := e
  cases id <;>
    simp [encBiscuit, optV, vField, bField, normField, Function.comp_def]

theorem encBiscuit_read (e : BiscuitMsg) :
    lastVarint 1 (encBiscuit e) = e.rootKeyId ∧
    lastBytes 2 (encBiscuit e) = some (encodeFields (encSignedBlock e.authority)) ∧
    allBytes 3 (encBiscuit e) = (e.blocks.map fun sb => encodeFields (encSignedBlock sb)) ∧
    lastBytes 4 (encBiscuit e) = some (encodeFields (encProof e.proof)) := by
  simp [encBiscuit]

theorem decodeBiscuit_encode (e : BiscuitMsg) :
    decodeBiscuit (encodeBiscuit e) = if smallEnv e then some (normEnv e) else none := by
  rw [decodeBiscuit, encodeBiscuit, decodeFields_encode _ (by simp [encBiscuit, or_imp, forall_and]),
    encBiscuit_map_norm, smallEnv]
  cases (encBiscuit e).all smallField
  · rfl
  · obtain ⟨r1, r2, r3, r4⟩ := encBiscuit_read { e with rootKeyId := e.rootKeyId.map (· % 2^64) }
    have hmod : (e.rootKeyId.map (· % 2^64)).map (· % 2^32) = e.rootKeyId.map (· % 2^32) := by
      cases e.rootKeyId with
      | none => rfl
      | some i => exact congrArg some (Nat.mod_mod_of_dvd i (by decide))
    simp only [Option.bind_eq_bind, Option.bind_some, r1, r2, r3, r4, decSignedBlock_encode,
      List.mapM_map_ite decSignedBlock_encode, decProof_encode, hmod, Bool.true_and, if_true]
    cases smallSB e.authority <;> cases e.blocks.all smallSB <;> cases smallProof e.proof <;> rfl

theorem normPK_eq (k : PublicKeyMsg) (h : k.algorithm < 2^64) : normPK k = k := by
  obtain ⟨a, key⟩ := k
  simp only [normPK]
  congr 1
  exact Nat.mod_eq_of_lt h

theorem normSB_eq (sb : SignedBlockMsg) (h : sb.nextKey.algorithm < 2^64) : normSB sb = sb := by
  obtain ⟨b, k, s⟩ := sb
  simp only [normSB]
  congr 1
  exact normPK_eq k h

theorem normEnv_eq (e : BiscuitMsg) (hid : ∀ i, e.rootKeyId = some i → i < 2^32)
    (halg : ∀ sb ∈ e.authority :: e.blocks, sb.nextKey.algorithm < 2^64) : normEnv e = e := by
  obtain ⟨id, a, bl, p⟩ := e
  simp only [normEnv]
  have h1 : id.map (· % 2^32) = id := map_mod_of_lt id _ hid
  have h2 : normSB a = a := normSB_eq a (halg a (by simp))
  have h3 : bl.map normSB = bl := List.map_eq_self fun sb hsb => normSB_eq sb (halg sb (by simp [hsb]))
  rw [h1, h2, h3]

theorem normEnv_rootKeyId (e : BiscuitMsg) (hid : ∀ i, e.rootKeyId = some i → i < 2^32) :
    (normEnv e).rootKeyId = e.rootKeyId :=
  map_mod_of_lt _ _ hid

theorem normEnv_signatures (e : BiscuitMsg) :
    (normEnv e).authority.signature = e.authority.signature ∧
    (normEnv e).blocks.map (·.signature) = e.blocks.map (·.signature) := by
  simp [normEnv, normSB, Function.comp_def]

theorem smallSB_of_fits (sb : SignedBlockMsg) (h : Fits (encSignedBlock sb))
    (halg : sb.nextKey.algorithm < 2^64) : smallSB sb = true := by
  have hk : Fits (encPublicKey sb.nextKey) := h.nested (k := 2) (by simp [encSignedBlock])
  rw [smallSB, smallPK, h.all_small (by simp [encSignedBlock]), hk.all_small (by simpa [encPublicKey] using halg)]
  rfl

theorem smallProof_of_fits (p : ProofMsg) (h : Fits (encProof p)) : smallProof p = true :=
  h.all_small (by cases p <;> simp [encProof])

theorem smallEnv_of_length (e : BiscuitMsg) (hid : ∀ i, e.rootKeyId = some i → i < 2^32)
    (halg : ∀ sb ∈ e.authority :: e.blocks, sb.nextKey.algorithm < 2^64)
    (hlen : (encodeBiscuit e).length < 2^64) : smallEnv e = true := by
  have hl : Fits (encBiscuit e) := hlen
  have hA : Fits (encSignedBlock e.authority) := hl.nested (k := 2) (by simp [encBiscuit])
  have hB : ∀ sb ∈ e.blocks, Fits (encSignedBlock sb) := fun sb hsb =>
    hl.nested (k := 3) (mem_allBytes.mp (by simp [encBiscuit]; exact ⟨sb, hsb, rfl⟩))
  have hP : Fits (encProof e.proof) := hl.nested (k := 4) (by simp [encBiscuit])
  have hF : (encBiscuit e).all smallField = true := hl.all_small (by
    simpa [encBiscuit, or_imp, forall_and] using fun n hn => Nat.lt_trans (hid n hn) (by decide))
  rw [smallEnv, hF, smallSB_of_fits _ hA (halg _ (by simp)), smallProof_of_fits _ hP,
    List.all_eq_true.mpr fun sb hsb => smallSB_of_fits _ (hB sb hsb) (halg _ (by simp [hsb]))]
  rfl

theorem decodeBiscuit_encode_of_length (e : BiscuitMsg) (hid : ∀ i, e.rootKeyId = some i → i < 2^32)
    (halg : ∀ sb ∈ e.authority :: e.blocks, sb.nextKey.algorithm < 2^64)
    (hlen : (encodeBiscuit e).length < 2^64) : decodeBiscuit (encodeBiscuit e) = some e := by
  rw [decodeBiscuit_encode, if_pos (smallEnv_of_length e hid halg hlen), normEnv_eq e hid halg]

/-- Without a length bound the round trip fails: a block of 2^70 bytes has an 11-byte
length varint, which the decoder (ten bytes at most, like protobuf) refuses. -/
def hugeBlock : Bytes := List.replicate (2^70) 0

theorem hugeBlock_length : hugeBlock.length = 2^70 := List.length_replicate ..

def hugeEnvelope : BiscuitMsg :=
  { rootKeyId := none,
    authority := { block := hugeBlock, nextKey := { algorithm := 0, key := [] }, signature := [] },
    blocks := [], proof := .empty }

theorem hugeEnvelope_not_reloadable : decodeBiscuit (encodeBiscuit hugeEnvelope) = none := by
  have hb : ¬ hugeBlock.length < 2^70 := by rw [hugeBlock_length]; omega
  have : smallSB hugeEnvelope.authority = false := by
    simp [smallSB, hugeEnvelope, encSignedBlock, smallField, bField, hb]
  rw [decodeBiscuit_encode, smallEnv, this, Bool.and_false, Bool.false_and, Bool.false_and]
  rfl

end Biscuit.Wire
