/-
Props/C11d — clause (d) of C11: after an evaluation returns, no goroutine it started stays
blocked forever. Stated on the protocol model `Model/Chan`. PARTIAL with respect to the
property: the Go scheduler, timers and goroutine lifetime are runtime behaviour this
model cannot exhibit; the tie to the code is the goroutine profile taken by the harness
after every case.
-/
import BiscuitModel.Proofs.Chan

namespace Biscuit.C11d
open Biscuit.Chan

/-- **APPLY, repaired.** From every initial configuration — any number of combinations,
the consumer returning early at any point or not at all — every execution that can no
longer move has both goroutines terminated. -/
theorem apply_no_strand_partial (items : Nat) (early : Option Nat) (c : ApplyCfg)
    (hr : ApplyReach true (applyInit items early) c) (ht : applyTerminal true c) : applyAllDone c :=
  applyInv_terminal (hr.invariant ApplyInv (fun h => by cases h) applyInv_step) ht

/-- Progress measure: executions are finite (no livelock either). -/
def applyMeasure (c : ApplyCfg) : Nat :=
  (match c.prod with | .sending n => 2 * n + 2 | .finished => 0) +
  (match c.cons with | .taking (some k) => 2 * k + 2 | .taking none => 1 | .returned => 0)

theorem apply_steps_decrease (repaired : Bool) (c c' : ApplyCfg) (h : c' ∈ applyStep repaired c) :
    applyMeasure c' < applyMeasure c := by
  cases applyStep_trans h with
  | @seeClosed m _ => cases m <;> dsimp only [applyMeasure] <;> omega
  | _ => dsimp only [applyMeasure] <;> omega

/-- **APPLY, pinned (D8).** Two combinations and a consumer that returns after the first
(an invalid rule with two matches): the producer stays blocked on its second send. -/
theorem apply_strands_pinned :
    ∃ c, ApplyReach false (applyInit 2 (some 1)) c ∧ applyTerminal false c ∧ c.prod = .sending 1 := by
  refine ⟨{ prod := .sending 1, cons := .returned, stopClosed := false }, ?_, rfl, rfl⟩
  refine .step (c := { prod := .sending 1, cons := .taking (some 0), stopClosed := false }) ?_ (by decide)
  exact .step .refl (by decide)

/-- The pinned protocol is fine exactly when the consumer never returns early — which is
why the 306 tests never saw it. -/
theorem apply_pinned_ok_without_early_exit (items : Nat) (c : ApplyCfg)
    (hr : ApplyReach false (applyInit items none) c) (ht : applyTerminal false c) : applyAllDone c :=
  applyInvNone_terminal (hr.invariant ApplyInvNone (Or.inl rfl) applyInvNone_step) ht

/-- **RUN, repaired.** Whatever the moment the timeout fires, every execution that can no
longer move has the evaluation goroutine exited and the caller returned. -/
theorem run_no_strand_partial (c : RunCfg) (hr : RunReach true c) (ht : runTerminal true c) :
    c.worker = .exited ∧ c.caller = .returned := by
  -- terminality alone forces both; reachability is not needed in the repaired protocol
  have _ := hr
  obtain ⟨w, k, t, b⟩ := c
  unfold runTerminal at ht
  cases w <;> cases k <;> cases t <;> cases b <;> simp [runStep] at ht ⊢

/-- **RUN, pinned (D8).** The timeout wins the race: the evaluation goroutine blocks forever
on its unbuffered `done <-`. -/
theorem run_strands_pinned :
    ∃ c, RunReach false c ∧ runTerminal false c ∧ c.worker = .delivering ∧ c.caller = .returned := by
  refine ⟨{ worker := .delivering, caller := .returned, timedOut := true, buffered := false },
    ?_, rfl, rfl, rfl⟩
  refine .step (c := { worker := .delivering, caller := .waiting, timedOut := true, buffered := false }) ?_ (by decide)
  refine .step (c := { worker := .computing, caller := .waiting, timedOut := true, buffered := false }) ?_ (by decide)
  exact .step .init (by decide)

def runMeasure (c : RunCfg) : Nat :=
  (match c.worker with | .computing => 4 | .delivering => 2 | .exited => 0) +
  (match c.caller with | .waiting => 3 | .returned => 0) +
  (if c.timedOut then 0 else 1) + (if c.buffered then 1 else 0)

theorem run_steps_decrease (repaired : Bool) (c c' : RunCfg) (h : c' ∈ runStep repaired c) :
    runMeasure c' < runMeasure c := by
  -- RUN is a finite system (24 configurations, two protocols): evaluate
  obtain ⟨w, k, t, b⟩ := c
  revert c'
  cases repaired <;> cases w <;> cases k <;> cases t <;> cases b <;> decide

/-! Non-vacuity: the repaired APPLY protocol on the D8 shape reaches a state with everything done. -/
example : ApplyReach true (applyInit 2 (some 1)) { prod := .finished, cons := .returned, stopClosed := true } := by
  refine .step (c := { prod := .sending 1, cons := .returned, stopClosed := true }) ?_ (by decide)
  refine .step (c := { prod := .sending 1, cons := .taking (some 0), stopClosed := false }) ?_ (by decide)
  exact .step .refl (by decide)

end Biscuit.C11d
