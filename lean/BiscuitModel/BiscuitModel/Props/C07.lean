/-
Props/C07 — wire fidelity: bytes carry exactly the caller's Datalog and round-trip intact.

`Model/Wire` is an independent encoder/decoder written from pb/biscuit.proto;
`Model/Symbols` interns content as the builders do and resolves it by the published
symbol rules (default table below 1024, per-block tables of new symbols only, each block
resolvable from its own and earlier tables).
-/
import BiscuitModel.Proofs.WireRoundtrip
import BiscuitModel.Proofs.Symbols

namespace Biscuit.C07
open Biscuit Biscuit.Wire

theorem varint_roundtrip (n : Nat) (h : n < 2^64) (rest : Bytes) :
    decodeVarint (encodeVarint n ++ rest) = some (n, rest) := by
  rw [decodeVarint_encode, if_pos (Nat.lt_trans h (by decide))]

theorem fields_roundtrip (fs : List Field) (h : ∀ f ∈ fs, FieldWF f) :
    decodeFields (encodeFields fs) = some fs :=
  decodeFields_encode_WF fs h

theorem term_roundtrip (t : ITerm) (h : TermWF t) (hl : (encodeFields (encTerm t)).length < 2^64) :
    decTerm (encodeFields (encTerm t)) = some t :=
  wire_decTerm_enc t h hl

theorem pred_roundtrip (p : IPred) (h : PredWF p) (hl : (encodeFields (encPred p)).length < 2^64) :
    decPred (encodeFields (encPred p)) = some p :=
  wire_decPred_enc p h hl

theorem rule_roundtrip (r : IRule) (h : RuleWF r) (hl : (encodeFields (encRule r)).length < 2^64) :
    decRule (encodeFields (encRule r)) = some r :=
  wire_decRule_enc r h hl

/-- **Round trip of block content** through the published schema. -/
theorem block_roundtrip (b : BlockMsg) (h : BlockWF b) : decodeBlock (encodeBlock b) = some b :=
  wire_decodeBlock_enc b h

/-! Operator codes: mutually inverse with the published enum numbering. -/

theorem unary_code_roundtrip (u : UnOp) : unaryOfCode (unaryCode u) = some u :=
  sym_unary_code_roundtrip u

theorem binary_code_roundtrip (b : BinOp) : binaryOfCode (binaryCode b) = some b :=
  sym_binary_code_roundtrip b

theorem unary_code_unique (k : Nat) (u : UnOp) (h : unaryOfCode k = some u) : unaryCode u = k := by
  unfold unaryOfCode at h
  split at h <;> cases h <;> rfl

theorem binary_code_unique (k : Nat) (b : BinOp) (h : binaryOfCode k = some b) : binaryCode b = k := by
  unfold binaryOfCode at h
  split at h <;> cases h <;> rfl

/-! Symbols: what the builders intern is what the published rules resolve. -/

theorem symInsert_resolves (t : SymTable) (s : Bytes) (h : TableOK t) :
    symStr (symInsert t s).1 (symInsert t s).2 = some s ∧ TableOK (symInsert t s).1 :=
  ⟨symInsert_symStr t s, (growsTo_symInsert t s).tableOK h⟩

/-- Extending a table never re-binds an index that resolved before: a later block (or the
authorizer) cannot change the meaning of an earlier block's symbols. -/
theorem symInsert_prefix_stable (t : SymTable) (s : Bytes) (i : Nat) (x : Bytes)
    (h : symStr t i = some x) : symStr (symInsert t s).1 i = some x := by
  obtain ⟨ext, he⟩ := (growsTo_symInsert t s).prefix
  rw [he]; exact sym_append_prefix_stable t ext i x h

theorem append_prefix_stable (t ext : SymTable) (i : Nat) (x : Bytes) (h : symStr t i = some x) :
    symStr (t ++ ext) i = some x :=
  sym_append_prefix_stable t ext i x h

/-- One block: the symbols it declares are exactly the new ones, and resolving the built
message with the table extended by them returns the caller's content, version 3. -/
theorem buildBlock_resolves (t : SymTable) (ht : TableOK t) (c : BlockContent) :
    let r := buildBlockMsg t c
    r.1 = t ++ r.2.symbols ∧ TableOK r.1 ∧ freshSymbols t r.2.symbols = true ∧
    r.2.version = some 3 ∧ resolveBlock r.1 r.2 = some c :=
  ⟨buildBlockMsg_table t c, (buildBlockMsg_growsTo t c).tableOK ht, buildBlockMsg_fresh t c, rfl,
    buildBlockMsg_resolves t c⟩

/-- **C07, first sentence.** For every content expressible through the builders — every
term type, sets, nested expressions, default and fresh symbols, symbols shared across
blocks — decoding block for block by the published symbol rules yields the facts, rules,
checks, expressions and context the caller supplied. -/
theorem build_then_resolve (cs : List BlockContent) :
    resolveBlocks [] (buildBlockMsgs [] cs) = some cs :=
  sym_build_then_resolve cs []

/-- The same for a caller-supplied base table (`WithSymbols` at build time, the same table in
`Unmarshaler.Symbols` at load time). `hb` says what the library keeps true of such a table; it is
part of the statement and the proof does not need it (any table will do). -/
theorem build_then_resolve_from (base : SymTable) (hb : TableOK base) (cs : List BlockContent) :
    resolveBlocks base (buildBlockMsgs base cs) = some cs := by
  have _ := hb
  exact sym_build_then_resolve cs base

theorem version_gate (v : Option Nat) : versionOk v = true ↔ v = some 3 :=
  sym_version_gate v

/-! Non-vacuity: a three-block token sharing symbols across blocks. -/

def sA : Bytes := strBytes "alice"
def fOwner : DFact := { name := strBytes "owner", args := [.atom (.str sA), .atom (.str (strBytes "file1"))] }
def rRead : DRule := { head := { name := strBytes "right", terms := [.var (strBytes "f"), .const (.atom (.str (strBytes "read")))] },
                       body := [{ name := strBytes "owner", terms := [.const (.atom (.str sA)), .var (strBytes "f")] }],
                       exprs := [[.value (.var (strBytes "f")), .value (.const (.atom (.str (strBytes "file")))), .binary .pfx]] }
def cs3 : List BlockContent :=
  [ { block := { facts := [fOwner], rules := [rRead], checks := [] }, context := [] },
    { block := { facts := [], rules := [], checks := [{ queries := [rRead] }] }, context := strBytes "ctx" },
    { block := { facts := [{ name := strBytes "time", args := [.atom (.date 5), .set [.int 1, .int 2]] }], rules := [], checks := [] }, context := [] } ]

/-- One evaluation for the three facts: the kernel then turns the default symbol names into
bytes and builds the messages once, not once per fact. -/
theorem cs3_evaluated :
    resolveBlocks [] (buildBlockMsgs [] cs3) = some cs3 ∧
    ((buildBlockMsgs [] cs3).map (·.symbols)) = [[sA, strBytes "file1", strBytes "f", strBytes "file"], [], []] ∧
    (buildBlockMsgs [] cs3).mapM (fun m => decodeBlock (encodeBlock m)) = some (buildBlockMsgs [] cs3) := by
  decide +kernel

example : resolveBlocks [] (buildBlockMsgs [] cs3) = some cs3 := cs3_evaluated.1
example : ((buildBlockMsgs [] cs3).map (·.symbols)) = [[sA, strBytes "file1", strBytes "f", strBytes "file"], [], []] := cs3_evaluated.2.1
example : (buildBlockMsgs [] cs3).mapM (fun m => decodeBlock (encodeBlock m)) = some (buildBlockMsgs [] cs3) := cs3_evaluated.2.2

end Biscuit.C07
