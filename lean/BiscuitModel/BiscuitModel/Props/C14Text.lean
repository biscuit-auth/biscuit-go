/-
Props/C14Text — the round trip of C14 at CHARACTER level, for whole statements and
statement lists: `C14Lexer.lex_spell` (characters ↔ tokens) composed with
`C14Items.parseItems_render` (tokens ↔ statements).

For every list of statements that is well formed as a tree (`C14Items.ItemWF`) and whose names
and literals are lexically well formed (`itemLexOK`), writing it out as text — the tokens of
`Render.renderItems`, each followed by one space (`Grammar.spell`) — and running the model's
text entry points `parseBlockText` / `parseAuthorizerText` / `parseSingleText` returns exactly
the statements.

`itemLexOK` is Bool-valued and exact: it holds if and only if every token of `renderItem it` is
`C14Lexer.TokWF` (`itemLexOK_iff`), and `TokWF` itself is exact (`C14Lexer.tokWF_exact`).  Besides
the conditions of `tokWF` on names and literals:

* infix operators: nothing.  Every operator token of `Printer.binTok` is well formed
  (`opTokOK_true`); an operator without a token renders to no token at all (such a tree is not
  `C14.WF`: its level is 8);
* methods: the operator must be one of the six method operators (`methodTok_tokWF`).  For every
  other operator `Printer.methodTok` gives the placeholder identifier `?`, which no text lexes
  to (`method_placeholder_not_lexable`);
* sets: every element, as an atom (a set inside a set renders to no token, so there is nothing
  to check; such a term is not `ItemWF` anyway);
* predicate names: `C14Lexer.identOK`, the condition that `C14Items` left to the character level.

Neither hypothesis can be dropped: see the examples at the end.
-/
import BiscuitModel.Proofs.TextRoundtrip
import BiscuitModel.Props.C14Items

namespace Biscuit.C14Text
open Biscuit Biscuit.Grammar Biscuit.Printer Biscuit.Render Biscuit.C14 Biscuit.C14Lexer
open Biscuit.TextRoundtrip

/-- An atom (what may stand inside a set): its one token is `TokWF` (a signed integer literal
has two, the Operator token `-` and the digits).  A set in this position renders to no token. -/
def atomLexOK : PTerm → Bool
  | .param n => nameOK n.toList                     -- `{` [a-zA-Z0-9_:]+ `}`
  | .var n => nameOK n.toList                       -- `$` [a-zA-Z0-9_:]+
  | .int ds => !ds.isEmpty && ds.all isDigit        -- [0-9]+
  | .negInt ds => !ds.isEmpty && ds.all isDigit     -- `-` [0-9]+ (the token `-` is always well formed)
  | .str s => s.all (· != '"')                      -- no quote inside
  | .date s => lexDate s == some (s, [])            -- the Date rule accepts `s` completely
  | .bytes ds => ds.all isHexDigit && ds.length % 2 == 0
  | .bool _ => true
  | .set _ => true                                  -- no token (not `TermWF` either)

def termLexOK : PTerm → Bool
  | .set elts => elts.all atomLexOK
  | t => atomLexOK t

/-- The token of an infix operator, if it has one, is `TokWF`.  Always true: `opTokOK_true`. -/
def opTokOK (op : BinOp) : Bool :=
  match binTok op with
  | some t => tokWF t
  | none => true

def exprLexOK : PExpr → Bool
  | .term t => termLexOK t
  | .paren e => exprLexOK e
  | .neg e => exprLexOK e
  | .bin op l r => exprLexOK l && opTokOK op && exprLexOK r
  | .method op recv arg => exprLexOK recv && tokWF (methodTok op) && exprLexOK arg
  | .length recv => exprLexOK recv

def predLexOK (p : PPred) : Bool := identOK p.name.toList && p.terms.all termLexOK

def elemLexOK : PElem → Bool
  | .pred p => predLexOK p
  | .expr e => exprLexOK e

def bodyLexOK (es : List PElem) : Bool := es.all elemLexOK

def ruleLexOK (r : PRule) : Bool := predLexOK r.head && bodyLexOK r.body

def queriesLexOK (qs : List (List PElem)) : Bool := qs.all bodyLexOK

def itemLexOK : PItem → Bool
  | .fact p => predLexOK p
  | .rule r => ruleLexOK r
  | .check c => queriesLexOK c.queries
  | .policy p => queriesLexOK p.queries

/-- Every infix operator token is well formed: `exprLexOK` asks nothing of `bin` nodes. -/
theorem opTokOK_true (op : BinOp) : opTokOK op = true := by
  cases op <;> decide +kernel

theorem methodTok_tokWF (op : BinOp) : tokWF (methodTok op) = isMethodOp op := by
  cases op <;> decide +kernel

/-- **The placeholder of `methodTok` cannot be written as text.**  For an operator that is
not a method, `renderToks (.method op …)` contains the identifier token `?`; no text lexes to
it.  Concretely `$x . ? ( $y )` reads back with the PUNCTUATION token `?`, and the parser
rejects it. -/
theorem method_placeholder_not_lexable :
    (∀ op, isMethodOp op = false → ¬ TokWF (methodTok op)) ∧
    renderToks (.method .add (.term (.var "x")) (.term (.var "y"))) =
      [.var "x", .dot, .ident "?", .punct '(', .var "y", .punct ')'] ∧
    lex (spell (renderToks (.method .add (.term (.var "x")) (.term (.var "y"))))) =
      some [.var "x", .dot, .punct '?', .punct '(', .var "y", .punct ')'] ∧
    parseSingleText (spell (renderItem (.check ⟨[[.expr (.method .add (.term (.var "x")) (.term (.var "y")))]]⟩))) =
      none := by
  refine ⟨fun op h hw => ?_, by decide +kernel, by rw [lex_eq]; decide +kernel,
    by rw [parseSingleText_eqC]; decide +kernel⟩
  unfold TokWF at hw
  rw [methodTok_tokWF, h] at hw
  cases hw

/-! `*LexOK` says exactly that every rendered token is `TokWF`: `TokWF t` is `tokWF t = true`, so
"every token of `l` is `TokWF`" is `l.all tokWF = true`, and construct by construct
`(render x).all tokWF` IS `xLexOK x`. -/

theorem tokWF_all_atomToks (t : PTerm) : (atomToks t).all tokWF = atomLexOK t := by
  cases t <;> simp [atomLexOK, atomToks, tokWF, opLits]

theorem tokWF_all_renderTermToks (t : PTerm) : (renderTermToks t).all tokWF = termLexOK t := by
  cases t with
  | set elts =>
    rw [renderTermToks_set, joinToks_eq_joinWith]
    simp only [List.all_append, all_joinWith tokWF _ tokWF_comma, List.all_map, Function.comp_def,
      tokWF_all_atomToks, termLexOK, List.all_cons, List.all_nil, tokWF_lbracket, tokWF_rbracket, Bool.and_true,
      Bool.true_and]
  | _ => rw [renderTermToks_atom (by trivial)]; exact tokWF_all_atomToks _

theorem tokWF_all_renderToks (e : PExpr) : (renderToks e).all tokWF = exprLexOK e := by
  induction e with
  | term t => exact tokWF_all_renderTermToks t
  | paren e ih =>
    simp only [renderToks, exprLexOK, List.all_append, List.all_cons, List.all_nil, ih, tokWF_lparen, tokWF_rparen,
      Bool.and_true, Bool.true_and]
  | neg e ih =>
    simp only [renderToks, exprLexOK, List.all_cons, ih, tokWF_bang, Bool.true_and]
  | bin op l r ihl ihr =>
    simp only [renderToks, exprLexOK, List.all_append, ihl, ihr, opTokOK]
    cases binTok op <;> simp
  | method op recv arg ihr iha =>
    simp only [renderToks, exprLexOK, List.all_append, List.all_cons, List.all_nil, ihr, iha, tokWF_lparen,
      tokWF_rparen, tokWF_dot, Bool.and_true, Bool.true_and]
  | length recv ih =>
    simp only [renderToks, exprLexOK, List.all_append, List.all_cons, List.all_nil, ih, tokWF_lparen, tokWF_rparen,
      tokWF_dot, tokWF_length, Bool.and_true]

theorem tokWF_all_renderPred (p : PPred) : (renderPred p).all tokWF = predLexOK p := by
  simp only [renderPred, renderTerms, predLexOK, List.all_cons, List.all_append, List.all_nil,
    all_joinWith tokWF _ tokWF_comma, List.all_map, Function.comp_def, tokWF_all_renderTermToks, tokWF_lparen,
    tokWF_rparen, Bool.and_true, Bool.true_and, show tokWF (.ident p.name) = identOK p.name.toList from rfl]

theorem tokWF_all_renderElem (e : PElem) : (renderElem e).all tokWF = elemLexOK e := by
  cases e with
  | pred p => exact tokWF_all_renderPred p
  | expr e => exact tokWF_all_renderToks e

theorem tokWF_all_renderBody (es : List PElem) : (renderBody es).all tokWF = bodyLexOK es := by
  simp only [renderBody, bodyLexOK, all_joinWith tokWF _ tokWF_comma, List.all_map, Function.comp_def,
    tokWF_all_renderElem]

theorem tokWF_all_renderQueries (qs : List (List PElem)) : (renderQueries qs).all tokWF = queriesLexOK qs := by
  simp only [renderQueries, queriesLexOK, all_joinWith tokWF _ tokWF_or, List.all_map, Function.comp_def,
    tokWF_all_renderBody]

theorem tokWF_all_renderItem (it : PItem) : (renderItem it).all tokWF = itemLexOK it := by
  cases it with
  | fact p => exact tokWF_all_renderPred p
  | rule r =>
    simp only [renderItem, renderRule, itemLexOK, ruleLexOK, List.all_append, List.all_cons, tokWF_all_renderPred,
      tokWF_all_renderBody, tokWF_arrow, Bool.true_and]
  | check c =>
    simp only [renderItem, renderCheck, itemLexOK, List.all_cons, tokWF_all_renderQueries, tokWF_check, Bool.true_and]
  | policy p =>
    have kw : tokWF (.keyword (policyKeyword p.allow)) = true := tokWF_policy p.allow
    simp only [renderItem, renderPolicy, itemLexOK, List.all_cons, tokWF_all_renderQueries, kw, Bool.true_and]

theorem atomLexOK_iff (t : PTerm) : atomLexOK t = true ↔ ∀ tok ∈ atomToks t, TokWF tok := by
  rw [← tokWF_all_atomToks, List.all_eq_true]
  rfl

/-- **`itemLexOK` is exact**: it holds if and only if every token of the rendering of the
statement is a well-formed token of the lexer round trip. -/
theorem itemLexOK_iff (it : PItem) : itemLexOK it = true ↔ ∀ tok ∈ renderItem it, TokWF tok := by
  rw [← tokWF_all_renderItem, List.all_eq_true]
  rfl

/-- The same for statement lists (`;` after every statement). -/
theorem itemsLexOK_iff (its : List PItem) :
    (∀ it ∈ its, itemLexOK it = true) ↔ ∀ tok ∈ renderItems its, TokWF tok := by
  have h := all_renderItems tokWF tokWF_semicolon its
  simp only [tokWF_all_renderItem] at h
  rw [← List.all_eq_true, ← h, List.all_eq_true]
  rfl

theorem lex_renderItems (its : List PItem) (h : ∀ it ∈ its, itemLexOK it = true) :
    lex (spell (renderItems its)) = some (renderItems its) :=
  lex_spell _ ((itemsLexOK_iff its).1 h)

theorem lex_renderItem (it : PItem) (h : itemLexOK it = true) :
    lex (spell (renderItem it)) = some (renderItem it) :=
  lex_spell _ ((itemLexOK_iff it).1 h)

/-- **C14, character level, block text.**  A list of well-formed statements without policies,
written out as text, is read back by `parseBlockText` (lexer, then parser with the model's
own fuel) as exactly the statements. -/
theorem parseBlockText_roundtrip (its : List PItem) (hwf : ∀ it ∈ its, C14Items.ItemWF it)
    (hlex : ∀ it ∈ its, itemLexOK it = true) (hnp : ∀ it ∈ its, isPolicy it = false) :
    parseBlockText (spell (renderItems its)) = some its := by
  rw [parseBlockText_spell _ ((itemsLexOK_iff its).1 hlex)]
  exact C14Items.parseItems_render its hwf false (fun it hit => Or.inl (hnp it hit))

/-- **C14, character level, authorizer text**: facts, rules, checks and policies. -/
theorem parseAuthorizerText_roundtrip (its : List PItem) (hwf : ∀ it ∈ its, C14Items.ItemWF it)
    (hlex : ∀ it ∈ its, itemLexOK it = true) :
    parseAuthorizerText (spell (renderItems its)) = some its := by
  rw [parseAuthorizerText_spell _ ((itemsLexOK_iff its).1 hlex)]
  exact C14Items.parseItems_render_authorizer its hwf

/-- **C14, character level, one statement** (`FromStringFact/Rule/Check/Policy`): no `;`. -/
theorem parseSingleText_roundtrip (it : PItem) (hwf : C14Items.ItemWF it) (hlex : itemLexOK it = true) :
    parseSingleText (spell (renderItem it)) = some it := by
  rw [parseSingleText_spell _ ((itemLexOK_iff it).1 hlex), C14Items.parseSingle_render it hwf]

/-- Block text with a policy in it is an error (the statements before the policy well
formed, those after it only lexically). -/
theorem parseBlockText_policy_rejected (pre : List PItem) (p : PPolicy) (post : List PItem)
    (hwf : ∀ it ∈ pre, C14Items.ItemWF it) (hnp : ∀ it ∈ pre, isPolicy it = false)
    (hlex : ∀ it ∈ pre ++ .policy p :: post, itemLexOK it = true) :
    parseBlockText (spell (renderItems (pre ++ .policy p :: post))) = none := by
  rw [parseBlockText_spell _ ((itemsLexOK_iff _).1 hlex)]
  exact C14Items.parseItems_policy_rejected pre p post hwf hnp

/-- The single-statement entry point does not take the terminator: the text of a one-element
LIST (`… ; `) is rejected by `parseSingleText`. -/
theorem parseSingleText_terminator_rejected (it : PItem) (hwf : C14Items.ItemWF it)
    (hlex : itemLexOK it = true) :
    parseSingleText (spell (renderItems [it])) = none := by
  have hl : ∀ i ∈ [it], itemLexOK i = true := by simpa using hlex
  rw [parseSingleText_spell _ ((itemsLexOK_iff [it]).1 hl)]
  have hp := C14Items.parseItem_render it hwf true (Or.inr rfl) (.punct ';' :: [])
    (C14Items.itemStops_semicolon []) (fuelFor (renderItems [it]))
    (by simp only [fuelFor, renderItems, List.length_append, List.length_cons]; omega)
  have he : renderItems [it] = renderItem it ++ [.punct ';'] := rfl
  rw [he] at hp ⊢
  rw [hp]

open C14Items in
example : itemLexOK exRule = true := by decide +kernel
open C14Items in
example : itemLexOK exCheck = true := by decide +kernel
open C14Items in
example : itemLexOK exPolicy = true := by decide +kernel
open C14Items in
example : itemLexOK exDeny = true := by decide +kernel
open C14Items in
example : itemLexOK exFact = true := by decide +kernel
open C14Items in
example : itemLexOK exNullary = true := by decide +kernel

theorem exBlock_lexOK : ∀ it ∈ C14Items.exBlock, itemLexOK it = true := by decide +kernel
theorem exAuthorizer_lexOK : ∀ it ∈ C14Items.exAuthorizer, itemLexOK it = true := by decide +kernel

theorem exBlock_spelling :
    String.ofList (spell (renderItems C14Items.exBlock)) =
      "roles ( \"alice\" , [ \"admin\" , \"dev\" ] , hex:00ff , 2020-01-01T00:00:00Z , [ 7 ] ) ; now ( ) ; right ( $u , \"read\" ) <- user ( $u ) , owner ( $u , $f ) , $f . starts_with ( \"/a/\" ) || $u == \"admin\" ; check if resource ( $r ) , operation ( \"read\" ) or admin ( true ) , ! $x . contains ( [ 1 , 2 ] ) ; " := by
  -- compared as character lists (`ofList_lit`); the bytes of a string this long would cost the kernel far more
  apply ofList_lit
  decide +kernel

/-- **A concrete block, from its characters, through the theorem**: two facts, a rule with
a method call and `||`, a check with two alternative queries, `!`, a set. -/
theorem exBlock_text :
    parseBlockText "roles ( \"alice\" , [ \"admin\" , \"dev\" ] , hex:00ff , 2020-01-01T00:00:00Z , [ 7 ] ) ; now ( ) ; right ( $u , \"read\" ) <- user ( $u ) , owner ( $u , $f ) , $f . starts_with ( \"/a/\" ) || $u == \"admin\" ; check if resource ( $r ) , operation ( \"read\" ) or admin ( true ) , ! $x . contains ( [ 1 , 2 ] ) ; ".toList =
      some C14Items.exBlock := by
  have h := parseBlockText_roundtrip C14Items.exBlock (by decide +kernel) exBlock_lexOK (by decide +kernel)
  rw [← exBlock_spelling, String.toList_ofList]
  exact h

/-- The statements, spelled out (what `some exBlock` is). -/
example : C14Items.exBlock =
    [.fact ⟨"roles", [.str "alice".toList, .set [.str "admin".toList, .str "dev".toList],
        .bytes "00ff".toList, .date "2020-01-01T00:00:00Z".toList, .set [.int "7".toList]]⟩,
     .fact ⟨"now", []⟩,
     .rule ⟨⟨"right", [.var "u", .str "read".toList]⟩,
       [.pred ⟨"user", [.var "u"]⟩, .pred ⟨"owner", [.var "u", .var "f"]⟩,
        .expr (.bin .or (.method .pfx (.term (.var "f")) (.term (.str "/a/".toList)))
          (.bin .eq (.term (.var "u")) (.term (.str "admin".toList))))]⟩,
     .check ⟨[[.pred ⟨"resource", [.var "r"]⟩, .pred ⟨"operation", [.str "read".toList]⟩],
       [.pred ⟨"admin", [.bool true]⟩,
        .expr (.neg (.method .contains (.term (.var "x")) (.term (.set [.int "1".toList, .int "2".toList]))))]]⟩] :=
  rfl

/-- The authorizer text (with `allow if` / `deny if`, a parameter, `.length()`, arithmetic
and parentheses), through the theorem. -/
theorem exAuthorizer_text :
    parseAuthorizerText "roles ( \"alice\" , [ \"admin\" , \"dev\" ] , hex:00ff , 2020-01-01T00:00:00Z , [ 7 ] ) ; now ( ) ; right ( $u , \"read\" ) <- user ( $u ) , owner ( $u , $f ) , $f . starts_with ( \"/a/\" ) || $u == \"admin\" ; check if resource ( $r ) , operation ( \"read\" ) or admin ( true ) , ! $x . contains ( [ 1 , 2 ] ) ; allow if user ( $u ) , $u == {name} or true ; deny if $t . length ( ) + 1 <= 2 * ( $n - 3 ) ; ".toList =
      some C14Items.exAuthorizer := by
  have h := parseAuthorizerText_roundtrip C14Items.exAuthorizer (by decide +kernel) exAuthorizer_lexOK
  have e : String.ofList (spell (renderItems C14Items.exAuthorizer)) = "roles ( \"alice\" , [ \"admin\" , \"dev\" ] , hex:00ff , 2020-01-01T00:00:00Z , [ 7 ] ) ; now ( ) ; right ( $u , \"read\" ) <- user ( $u ) , owner ( $u , $f ) , $f . starts_with ( \"/a/\" ) || $u == \"admin\" ; check if resource ( $r ) , operation ( \"read\" ) or admin ( true ) , ! $x . contains ( [ 1 , 2 ] ) ; allow if user ( $u ) , $u == {name} or true ; deny if $t . length ( ) + 1 <= 2 * ( $n - 3 ) ; " := by
    apply ofList_lit
    decide +kernel
  rw [← e, String.toList_ofList]
  exact h

/-- The same text is not a block: it has policies. -/
example : parseBlockText (spell (renderItems C14Items.exAuthorizer)) = none :=
  parseBlockText_policy_rejected C14Items.exBlock _ [C14Items.exDeny] (by decide +kernel) (by decide +kernel) exAuthorizer_lexOK

/-- One statement, without `;`, through the theorem. -/
theorem exDeny_text :
    parseSingleText "deny if $t . length ( ) + 1 <= 2 * ( $n - 3 ) ".toList = some C14Items.exDeny :=
  -- the literal is `String.ofList` of the spelling, by unification
  (congrArg parseSingleText String.toList_ofList).trans
    (parseSingleText_roundtrip C14Items.exDeny (by decide +kernel) (by decide +kernel))

/-- Evaluation agrees with the theorems (by computation in the kernel, independently of them;
the statements are compared through their rendering: syntax trees have no decidable equality). -/
example : (parseBlockText (spell (renderItems C14Items.exBlock))).map renderItems =
    some (renderItems C14Items.exBlock) := by rw [parseBlockText_eqC]; decide +kernel
example : (parseSingleText (spell (renderItem C14Items.exDeny))).map renderItem =
    some (renderItem C14Items.exDeny) := by rw [parseSingleText_eqC]; decide +kernel

/-! `itemLexOK` cannot be dropped (each statement below is `ItemWF`): the text is rejected, or —
worse — accepted as a DIFFERENT statement. -/

/-- A predicate named like a Function literal: the lexer gives `.func "length"`. -/
example : C14Items.ItemWF (.fact ⟨"length", []⟩) ∧ itemLexOK (.fact ⟨"length", []⟩) = false ∧
    parseSingleText (spell (renderItem (.fact ⟨"length", []⟩))) = none := by
  refine ⟨by decide +kernel, by decide +kernel, by rw [parseSingleText_eqC]; decide +kernel⟩

/-- …like a Bool literal, or starting with an upper-case letter. -/
example : parseSingleText (spell (renderItem (.fact ⟨"true", []⟩))) = none := by
  rw [parseSingleText_eqC]; decide +kernel
example : parseSingleText (spell (renderItem (.fact ⟨"Abc", []⟩))) = none := by
  rw [parseSingleText_eqC]; decide +kernel


/-- In the OTHER direction `itemLexOK` is sufficient, not necessary, in one place: `identOK`
excludes the names `check`, `allow`, `deny` because as free-standing tokens they may be
followed by `if…` (`C14Lexer`: `check if` is one Keyword token).  A predicate name is always
followed by `(`, so these three names do read back; the theorems do not cover them. -/
example : predLexOK ⟨"check", []⟩ = false ∧
    parseSingleText (spell (renderItem (.fact ⟨"check", [.var "x"]⟩))) = some (.fact ⟨"check", [.var "x"]⟩) := by
  refine ⟨by decide +kernel, by rw [parseSingleText_eqC]; rfl⟩

/-- An "integer" that is spelled like a date comes back as a date. -/
example : C14Items.ItemWF (.fact ⟨"a", [.int "2020-01-01T00:00:00Z".toList]⟩) ∧
    parseSingleText (spell (renderItem (.fact ⟨"a", [.int "2020-01-01T00:00:00Z".toList]⟩))) =
      some (.fact ⟨"a", [.date "2020-01-01T00:00:00Z".toList]⟩) := by
  refine ⟨by decide +kernel, by rw [parseSingleText_eqC]; rfl⟩

/-- A string with a quote inside ends early; one string can come back as two. -/
example : parseSingleText (spell (renderItem (.fact ⟨"a", [.str ['"']]⟩))) = none := by
  rw [parseSingleText_eqC]; decide +kernel
example : parseSingleText (spell (renderItem (.fact ⟨"a", [.str "x\" , \"y".toList]⟩))) =
    some (.fact ⟨"a", [.str ['x'], .str ['y']]⟩) := by rw [parseSingleText_eqC]; rfl

/-- A variable name with other characters: two different trees, the same text. -/
example : parseSingleText (spell (renderItem (.fact ⟨"a", [.var "x , $y"]⟩))) =
    some (.fact ⟨"a", [.var "x", .var "y"]⟩) := by rw [parseSingleText_eqC]; rfl

/-- An odd number of hex digits: the last digit is read as a token of its own (here the identifier
`c`), the parser stops. -/
example : parseSingleText (spell (renderItem (.fact ⟨"a", [.bytes "abc".toList]⟩))) = none := by
  rw [parseSingleText_eqC]; decide +kernel

/-- `ItemWF` cannot be dropped either (the statement is `itemLexOK`): without parentheses the
tree `(1 + 2) * 3` is written `1 + 2 * 3` and comes back as `1 + (2 * 3)`. -/
example :
    itemLexOK (.check ⟨[[.expr (.bin .mul (.bin .add (.term (.int ['1'])) (.term (.int ['2']))) (.term (.int ['3'])))]]⟩) = true ∧
    parseSingleText (spell (renderItem
      (.check ⟨[[.expr (.bin .mul (.bin .add (.term (.int ['1'])) (.term (.int ['2']))) (.term (.int ['3'])))]]⟩))) =
      some (.check ⟨[[.expr (.bin .add (.term (.int ['1'])) (.bin .mul (.term (.int ['2'])) (.term (.int ['3']))))]]⟩) := by
  refine ⟨by decide +kernel, by rw [parseSingleText_eqC]; rfl⟩

/-- Not everything is lexically well formed, constructor by constructor. -/
example : termLexOK (.param "") = false := by decide +kernel
example : termLexOK (.var "a-b") = false := by decide +kernel
example : termLexOK (.int []) = false := by decide +kernel
example : termLexOK (.int "-1".toList) = false := by decide +kernel
example : termLexOK (.str "a\"b".toList) = false := by decide +kernel
example : termLexOK (.date "2020-01-01".toList) = false := by decide +kernel
example : termLexOK (.date "2020-01-01T00:00:00+02".toList) = false := by decide +kernel
example : termLexOK (.bytes "0".toList) = false := by decide +kernel
example : termLexOK (.bytes "0g".toList) = false := by decide +kernel
example : termLexOK (.set [.int ['1'], .var ""]) = false := by decide +kernel
example : exprLexOK (.method .add (.term (.var "x")) (.term (.var "y"))) = false := by decide +kernel
example : predLexOK ⟨"hex:ab", []⟩ = false := by decide +kernel
example : predLexOK ⟨"", []⟩ = false := by decide +kernel

/-- …and much is: every method and every infix operator, dates with fraction and zone, empty
byte strings, names with `:`, predicate names that merely START like a literal. -/
example : ∀ op ∈ [BinOp.contains, .pfx, .sfx, .regex, .intersection, .union],
    exprLexOK (.method op (.term (.var "x")) (.term (.var "y"))) = true := by decide +kernel
example : ∀ op : BinOp, exprLexOK (.bin op (.term (.var "x")) (.term (.var "y"))) = true := by
  intro op; cases op <;> decide +kernel
example : termLexOK (.date "2020-01-01T00:00:00.125+02:00".toList) = true := by decide +kernel
example : termLexOK (.bytes []) = true := by decide +kernel
example : predLexOK ⟨"lengthy", [.var "a:b", .param "p_1", .set [.str "x y".toList, .bool false]]⟩ = true := by decide +kernel
example : predLexOK ⟨"or", []⟩ = true := by decide +kernel
example : predLexOK ⟨"check_if", []⟩ = true := by decide +kernel

end Biscuit.C14Text
