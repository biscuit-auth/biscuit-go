/-
Props/C03Heap — `World.Clone` copies the FactSet slice HEADER (datalog.go:451-459). For the
access pattern of `Authorize` (authorizer.go:210-259) this is observationally a value
copy: each block's world is read right after its own appends, the authority-level world
is not appended to while block worlds are being built, and appends never touch cells
below the source's length.
-/
import BiscuitModel.Proofs.Heap

namespace Biscuit.C03Heap
open Biscuit.Heap

variable {α : Type}

def appendAll (grow : Nat → Nat) (pad : α) (h : Heap α) (s : Slice) : List α → Heap α × Slice
  | [] => (h, s)
  | x :: xs => let r := append grow pad h s x; appendAll grow pad r.1 r.2.1 xs

/-- The block loop at heap level: header-copy clone of the base, append the block's facts,
read. Returns what each block's evaluation sees. -/
def blockLoopHeader (grow : Nat → Nat) (pad : α) : Heap α → Slice → List (List α) → List (List α)
  | _, _, [] => []
  | h, base, fs :: rest =>
    let c := cloneHeader h base
    let r := appendAll grow pad c.1 c.2 fs
    read r.1 r.2 :: blockLoopHeader grow pad r.1 base rest

theorem appendAll_spec (grow : Nat → Nat) (hg : ∀ n, grow n > n) (pad : α) {h : Heap α} {s : Slice}
    (hv : Valid h s) (xs : List α) :
    AppSpec h s xs [] (appendAll grow pad h s xs).1 (appendAll grow pad h s xs).2 [] := by
  induction xs generalizing h s with
  | nil => exact AppSpec.refl hv []
  | cons x xs ih =>
    have a := (append_spec grow hg pad hv x []).forget
    exact a.trans (ih a.valid)

/-- **C03, header copy refines value copy.** Every block sees exactly the authority-level
facts followed by its own — for any number of blocks, any capacities, any growth policy. -/
theorem clone_header_copy_refines_value_copy (grow : Nat → Nat) (hg : ∀ n, grow n > n) (pad : α)
    (h : Heap α) (base : Slice) (hb : base.arr < h.length) (hl : base.len ≤ cap h base)
    (blocks : List (List α)) :
    blockLoopHeader grow pad h base blocks = blocks.map fun fs => read h base ++ fs := by
  induction blocks generalizing h with
  | nil => rfl
  | cons fs rest ih =>
    have sp := appendAll_spec grow hg pad (h := h) (s := base) ⟨hb, hl⟩ fs
    simp only [blockLoopHeader, cloneHeader, List.map_cons]
    rw [sp.read_self, ih _ (Nat.lt_of_lt_of_le hb sp.len_le) (by rw [sp.cap_eq base hb]; exact hl),
      sp.frame base hb (Or.inr (Nat.le_refl _))]

/-- The authority-level world itself reads the same after the loop (later `Query` calls). -/
theorem base_unchanged_by_block (grow : Nat → Nat) (hg : ∀ n, grow n > n) (pad : α)
    (h : Heap α) (base : Slice) (hb : base.arr < h.length) (hl : base.len ≤ cap h base) (fs : List α) :
    read (appendAll grow pad h base fs).1 base = read h base :=
  (appendAll_spec grow hg pad ⟨hb, hl⟩ fs).frame base hb (Or.inr (Nat.le_refl _))

end Biscuit.C03Heap
