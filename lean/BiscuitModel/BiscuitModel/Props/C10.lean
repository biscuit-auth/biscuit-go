/-
Props/C10 — untrusted token bytes can never crash the verifier.

A Lean function cannot panic, so the statement is meaningful only because the model
represents the places where the Go code can (`Model/Pipeline`, `Model/Expr`): the theorem
says that no input drives the model into a `panic` outcome. PARTIAL with respect to the
property: nil dereferences are represented for the operator-kind fields fed by untrusted
bytes, not for every pointer of the program; stack exhaustion, out-of-memory and the
run-time limits are outside the model. The inventory of such sites in the source is compared
with a reviewed list in `Props/TablesPanicSites` (regenerated on every run); that each of them is
represented here or cannot fire is by review, not a theorem.
-/
import BiscuitModel.Proofs.Pipeline

namespace Biscuit.C10
open Biscuit Biscuit.Wire

/-- Guard: `Str` never panics in the repaired code, for any table and any 64-bit index. -/
theorem str_guard (t : SymTable) (i : Nat) : (symStrGo false t i).isPanic = false :=
  symStrGo_false_no_panic t i

/-- D5, pinned: an index at 2^63 panics. -/
theorem str_pinned_panics : symStrGo true [] (2^63) = .panic .symbolIndexNegative := by
  simp [symStrGo]

/-- Guard: the proof check never panics in the repaired code, for any secret length. -/
theorem seed_guard (S : SigScheme) (current : Bytes) (e : BiscuitMsg) :
    (verifyProofGo false S current e).isPanic = false := by
  unfold verifyProofGo
  split
  · split <;> rfl
  · rfl

/-- D6, pinned: a 3-byte next secret panics. -/
theorem seed_pinned_panics (S : SigScheme) (current : Bytes) (e : BiscuitMsg)
    (h : e.proof = .nextSecret [1, 2, 3]) : verifyProofGo true S current e = .panic .badSeedLength := by
  simp [verifyProofGo, h]

/-- Resolution of every decodable token is total in the repaired code. -/
theorem resolve_guard (msgs : List BlockMsg) : (resolveTokenL false msgs).isPanic = false := by
  unfold resolveTokenL
  exact mapMOutcome_no_panic _ (resolveBlockL_no_panic _) msgs

/-- A run never reports a panic unless some expression evaluation panicked. -/
theorem run_panic_from_eval {V E : Type} [DecidableEq V] (ev : Bindings V → E → Outcome Bool)
    (hev : ∀ σ e, (ev σ e).isPanic = false) (mf mi : Nat) (P : List (Rule V E)) (F W : List (Fact V))
    (site : PanicSite) : run ev mf P mi F ≠ (W, some (.panic site)) := fun h =>
  (run_err_from ev mf P mi F W _ h).elim nofun fun h => h.elim nofun (RunErr.FromEval.not_panic hev)

/-- Authorization never yields a panic outcome with the repaired set operations. -/
theorem authorize_no_panic (cfg : EvalCfg) (hs : cfg.sets = .loops) (tok : Token) (s : AuthState) (site : PanicSite) :
    (authorize cfg tok s).2 ≠ .runError (.panic site) := fun h =>
  have ⟨w, w', hr⟩ := authorizeWith_runError_from cfg false tok s _ h
  run_panic_from_eval _ (evalBool_no_panic cfg hs) _ _ _ _ _ site (runWorld_run cfg _ w w' _ hr).1

/-- **C10.** For every byte string, every signature scheme, every root key, every authorizer
state (any facts, rules, checks, policies, limits): decoding, verifying, resolving and
authorizing ends in a rejection or a verdict — never in a panic. -/
theorem decode_verify_authorize_no_panic_partial (S : SigScheme) (cfg : EvalCfg) (hs : cfg.sets = .loops)
    (root bs : Bytes) (s : AuthState) : (pipeline false false S cfg root bs s).isPanic = false :=
  pipeline_no_panic_of false false S cfg root bs s (seed_guard S) resolve_guard
    fun tok site => authorize_no_panic cfg hs tok s site

/-- Printing any decodable token never panics. -/
theorem print_no_panic (bs : Bytes) : (printOutcome false bs).isPanic = false := by
  unfold printOutcome
  split
  · rfl
  · exact Outcome.isPanic_bind (resolve_guard _) fun _ => rfl

/-- Queries after authorization, attenuation and sealing are `Except`-valued functions of
the model (`query`, `appendEnvelope`, `sealEnvelope`): an error or a value by type. What
remains to say is that the secret-length gate makes them errors, not panics: -/
theorem append_bad_secret_is_error (S : SigScheme) (e : BiscuitMsg) (sk : Bytes) (hp : e.proof = .nextSecret sk)
    (hl : sk.length ≠ 32) (block : Bytes) (rng : Rng) : appendEnvelope S e block rng = .error .keySize := by
  simp [appendEnvelope, appendEnvelopeWith, hp, hl]

theorem seal_bad_secret_is_error (S : SigScheme) (e : BiscuitMsg) (sk : Bytes) (hp : e.proof = .nextSecret sk)
    (hl : sk.length ≠ 32) : sealEnvelope S e = .error .keySize := by
  simp [sealEnvelope, sealEnvelopeWith, hp, hl]

/-- An operator message without kind does not decode (repaired converters; the pinned
code dereferences the nil kind). -/
theorem op_without_kind_rejected : decOp (encodeFields [bField 3 (encodeFields [])]) = none := by
  decide +kernel

end Biscuit.C10
