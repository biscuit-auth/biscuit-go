/-
Props/C14Layout — character-level round trip of the lexer over ARBITRARY layouts.

A layout is a list of gaps (blank strings: spaces, tabs, newlines, CRs), gap `i` after token `i`,
and a gap may be EMPTY wherever `needSep t next = false` (`Model/Layout`): texts as the library's printer
writes them are covered,

    right("file1", "read") <- user($u), $u.starts_with("a") || 1 + 2 == 3;

`lexOne_spell_ok` reads one token back in front of any input that `okAfter` admits; `lex_spellWith`
(`lex_spellWith_lead` with leading blanks) is the round trip over layouts, of which the one-space
layout of `Model/Spell` is an instance (`lex_spell_corollary`; `Props/C14Lexer` builds on it).
The examples at the end show, class by class, that `needSep` is exact, except on two conservative
classes listed there.
-/
import BiscuitModel.Proofs.LexerLayout

namespace Biscuit.C14Layout
open Biscuit Biscuit.Grammar Biscuit.C14Lexer

theorem okAfter_nil (t : Tok) : okAfter t [] = true := by
  cases t <;> rfl

/-- After a token whose rule ends at the first character outside `p` (not Hex, which looks at two). -/
theorem okAfter_stop {t : Tok} {p : Char → Bool} {rest : List Char} (hp : ∀ c, canFollow t c = !p c)
    (ht : ∀ ds, t ≠ .hex ds) (h : okAfter t rest = true) : stopAt p rest = true := by
  cases rest with
  | nil => rfl
  | cons x r =>
    rw [stopAt, ← hp]
    cases t with
    | hex ds => exact absurd rfl (ht ds)
    | _ => simpa [okAfter] using h

theorem okAfter_int {ds rest : List Char} (h : okAfter (.int ds) rest = true) :
    stopAt isDigit rest = true ∧ (ds.length ≠ 4 ∨ stopAt (· == '-') rest = true) := by
  cases rest with
  | nil => exact ⟨rfl, Or.inr rfl⟩
  | cons x r =>
    simp only [okAfter, canFollow, Bool.and_eq_true, Bool.not_eq_true', Bool.and_eq_false_iff,
      beq_eq_false_iff_ne, ne_eq] at h
    refine ⟨by simpa [stopAt] using h.1, ?_⟩
    rcases h.2 with h2 | h2
    · exact Or.inr (by simpa [stopAt] using h2)
    · exact Or.inl h2

theorem okAfter_op {s : String} {rest : List Char} (h : okAfter (.op s) rest = true) :
    (s = "<" → stopAt (· == '-') rest = true ∧ stopAt (· == '=') rest = true) ∧
    (s = ">" → stopAt (· == '=') rest = true) := by
  cases rest with
  | nil => simp [stopAt]
  | cons x r =>
    simp only [okAfter, canFollow, opFollow] at h
    constructor
    · rintro rfl
      simpa [stopAt] using h
    · rintro rfl
      simpa [stopAt] using h

theorem okAfter_punct {c : Char} {rest : List Char} (h : okAfter (.punct c) rest = true) :
    ((c = '$' ∨ c = '{') → stopAt isNameChar rest = true) ∧
    (∀ d ∈ ['&', '|', '=', '/'], c = d → stopAt (· == d) rest = true) := by
  cases rest with
  | nil => simp [stopAt]
  | cons x r =>
    simp only [okAfter, canFollow, punctFollow] at h
    constructor
    · rintro (rfl | rfl) <;> simpa [stopAt] using h
    · intro d hd hcd
      subst hcd
      simp only [List.mem_cons, List.not_mem_nil, or_false] at hd
      rcases hd with rfl | rfl | rfl | rfl <;> simpa [stopAt] using h

/-- **One token**: the spelling of a well-formed token, followed by any input that `okAfter`
admits, is read back as that token, and the input is left untouched.  Token class by token class: the
first character says which rules can fire at all (`lexOne_lower`, `lexOne_digit`, `lexOne_sym`); of
those, the ones before the rule of `t` fail and that rule does not look past `rest`. -/
theorem lexOne_spell_ok (t : Tok) (h : TokWF t) (rest : List Char) (hr : okAfter t rest = true) :
    lexOne (spellTok t ++ rest) = some (some t, rest) := by
  unfold TokWF at h
  cases t with
  | keyword k =>
    have hk : k ∈ kwC.map String.ofList := by simpa [tokWF, keywordLits_eq] using h
    obtain ⟨l, hl, rfl⟩ := List.mem_map.1 hk
    -- Keyword is the first rule
    have e : firstLitC kwC (l ++ rest) = some (l, rest) := by
      simp only [kwC, List.mem_cons, List.not_mem_nil, or_false] at hl
      rcases hl with rfl | rfl | rfl <;> simp [kwC, firstLitC, stripLit]
    simp only [spellTok, String.toList_ofList, lexOne_eq, lexOneC, lexRules, List.findSome?_cons, litRule, e,
      Option.map_some]
  | func f =>
    have hw : atWordEnd rest = true :=
      (atWordEnd_eq_stopAt rest).trans (okAfter_stop (fun _ => rfl) (fun _ => Tok.noConfusion) hr)
    have hf : f ∈ fnC.map String.ofList := by simpa [tokWF, funcLits_eq] using h
    obtain ⟨l, hl, rfl⟩ := List.mem_map.1 hf
    simp only [fnC, List.mem_cons, List.not_mem_nil, or_false] at hl
    simp only [spellTok, String.toList_ofList]
    -- a lower-case letter: Keyword fails, Function matches
    rcases hl with rfl | rfl | rfl | rfl | rfl <;> rw [List.cons_append, lexOne_lower _ _ (by decide)] <;>
      simp [litRule, wordRule, kwC, fnC, firstLitC, firstWordC, stripLit, hw]
  | hex ds =>
    simp only [tokWF, Bool.and_eq_true, beq_iff_eq] at h
    have hp := hexPairs_append_stop ds rest h.1 h.2 hr
    simp only [spellTok, List.cons_append]
    rw [lexOne_lower _ _ (by decide)]
    simp [litRule, wordRule, hexRule, kwC, fnC, firstLitC, firstWordC, stripLit, hp]
  | dot | arrow | orOp | andOp =>
    simp only [spellTok, List.cons_append, List.nil_append]
    rw [lexOne_sym _ _ (by decide) (by decide)]
    simp [symRule, stripLit]
  | comment => simp [tokWF] at h
  | op o =>
    obtain ⟨h1, h2⟩ := okAfter_op hr
    have ho : o ∈ opC.map String.ofList := by simpa [tokWF, opLits_eq] using h
    obtain ⟨l, hl, rfl⟩ := List.mem_map.1 ho
    -- `>` must not become `>=`, nor `<` become `<-` or `<=`; no rule extends the other operators
    have gt : l = ['>'] → stripLit ['='] rest = none := fun e => stripLit1_none (h2 (e ▸ rfl))
    have lt : l = ['<'] → stripLit ['-'] rest = none ∧ stripLit ['='] rest = none := fun e =>
      ⟨stripLit1_none (h1 (e ▸ rfl)).1, stripLit1_none (h1 (e ▸ rfl)).2⟩
    simp only [opC, List.mem_cons, List.not_mem_nil, or_false] at hl
    simp only [spellTok, String.toList_ofList]
    rcases hl with rfl | rfl | rfl | rfl | rfl | rfl | rfl | rfl <;>
      rw [List.cons_append, lexOne_sym _ _ (by decide) (by decide)] <;>
      simp [symRule, litRule, firstLitC, opC, stripLit, gt, lt]
  | str s =>
    have hs : s.all (· != '"') = true := by simpa [tokWF] using h
    have := spanWhile_append_stopAt (· != '"') s ('"' :: rest) hs rfl
    simp only [spellTok, List.cons_append, List.append_assoc, List.nil_append]
    rw [lexOne_sym _ _ (by decide) (by decide)]
    simp [symRule, litRule, commentRule, strRule, headRule, firstLitC, opC, stripLit, this]
  | var n =>
    simp only [tokWF, nameOK, Bool.and_eq_true, Bool.not_eq_true', List.isEmpty_eq_false_iff] at h
    have := spanWhile_append_stopAt isNameChar n.toList rest h.2
      (okAfter_stop (fun _ => rfl) (fun _ => Tok.noConfusion) hr)
    rw [spellTok, List.cons_append, lexOne_sym _ _ (by decide) (by decide)]
    simp [symRule, litRule, commentRule, strRule, headRule, varRule, firstLitC, opC, stripLit, this, h.1]
  | param n =>
    simp only [tokWF, nameOK, Bool.and_eq_true, Bool.not_eq_true'] at h
    have := spanWhile_append_stopAt isNameChar n.toList ('}' :: rest) h.2 rfl
    simp only [spellTok, List.cons_append, List.append_assoc, List.nil_append]
    rw [lexOne_sym _ _ (by decide) (by decide)]
    simp [symRule, litRule, commentRule, strRule, headRule, varRule, paramRule, firstLitC, opC, stripLit, this, h.1]
  | date s =>
    have hs : lexDate s = some (s, []) := by simpa [tokWF] using h
    obtain ⟨c, r, rfl, hc⟩ := lexDate_head s _ hs
    have hd := lexDate_stop (c :: r) rest (okAfter_stop (fun _ => rfl) (fun _ => Tok.noConfusion) hr)
    rw [hs] at hd
    rw [spellTok]
    rw [List.cons_append] at hd ⊢
    simp only [lexOne_digit _ _ hc, List.findSome?_cons, dateRule, hd, Option.map_some, padW, List.nil_append]
  | int ds =>
    simp only [tokWF, Bool.and_eq_true, Bool.not_eq_true', List.isEmpty_eq_false_iff] at h
    obtain ⟨h1, h2⟩ := okAfter_int hr
    -- the Date rule comes first
    have hdate := lexDate_digits_none_stop ds h.2 rest h1 h2
    have hsp := spanWhile_append_stopAt isDigit ds rest h.2 h1
    cases ds with
    | nil => exact absurd rfl h.1
    | cons c r =>
      have hc : isDigit c = true := List.all_eq_true.1 h.2 c (List.mem_cons_self ..)
      rw [spellTok]
      rw [List.cons_append] at hdate hsp ⊢
      simp only [lexOne_digit _ _ hc, List.findSome?_cons, dateRule, intRule, headRule, hdate, hsp, hc, if_true,
        Option.map_none]
  | bool b =>
    have hw : atWordEnd rest = true :=
      (atWordEnd_eq_stopAt rest).trans (okAfter_stop (fun _ => rfl) (fun _ => Tok.noConfusion) hr)
    cases b <;> simp only [spellTok, List.cons_append, List.nil_append] <;> rw [lexOne_lower _ _ (by decide)] <;>
      simp [litRule, wordRule, hexRule, kwC, fnC, boolC, firstLitC, firstWordC, stripLit, hw]
  | ident s =>
    have hs : stopAt isNameChar rest = true := okAfter_stop (fun _ => rfl) (fun _ => Tok.noConfusion) hr
    have hw := stopAt_mono isNameChar_of_isWordChar hs
    obtain ⟨l, rfl⟩ : ∃ l, s = String.ofList l := ⟨s.toList, String.ofList_toList.symm⟩
    simp only [tokWF, spellTok, String.toList_ofList] at h ⊢
    cases l with
    | nil => cases h
    | cons c r =>
      obtain ⟨hc, hn, hk, hf, hh, hb⟩ := (identOK_cons c r).1 h
      have hall : (c :: r).all isNameChar = true := by simp [isNameChar, hc, hn]
      -- the rules before Ident fail on the name, hence on the name followed by `rest`
      have h1 := firstLitC_keyword_stop (c :: r) rest hall hk hs
      have h2 := firstWordC_stop isNameChar fnC (c :: r) rest (by decide) hs hw
      have h3 := stripLit_stop isNameChar ['h','e','x',':'] (c :: r) rest (by decide) hs
      have h4 := firstWordC_stop isNameChar boolC (c :: r) rest (by decide) hs hw
      rw [hf] at h2; rw [hh] at h3; rw [hb] at h4
      have hspan := spanWhile_append_stopAt isNameChar r rest hn hs
      rw [List.cons_append] at h1 h2 h3 h4 ⊢
      simp only [lexOne_lower _ _ hc, List.findSome?_cons, litRule, wordRule, hexRule, identRule, headRule, h1, h2,
        h3, h4, Option.map_none, hc, if_true, hspan]
  | punct c =>
    have hc : c ∈ wfPunct := by simpa [tokWF] using h
    have H1 : ∀ c ∈ wfPunct, isLower c = false ∧ isDigit c = false ∧ (c == '"') = false ∧
        (c == ' ' || c == '\t') = false ∧ (c == '\n' || c == '\r') = false ∧ punctC.contains c = true := by
      decide +kernel
    have H2 : ∀ c ∈ wfPunct, '.' ≠ c ∧ '<' ≠ c ∧ '>' ≠ c ∧ '+' ≠ c ∧ '-' ≠ c ∧ '*' ≠ c := by decide +kernel
    obtain ⟨a1, a2, a3, a4, a5, a6⟩ := H1 c hc
    obtain ⟨b1, b2, b3, b4, b5, b6⟩ := H2 c hc
    obtain ⟨hn, hd⟩ := okAfter_punct hr
    -- the two-character rules `||` `&&` `==` `//` need their second character
    have e3 := stripLit2_none '|' '|' c rest (hd '|' (by decide))
    have e4 := stripLit2_none '&' '&' c rest (hd '&' (by decide))
    have e5 := stripLit2_none '=' '=' c rest (hd '=' (by decide))
    have e6 := stripLit2_none '/' '/' c rest (hd '/' (by decide))
    have eop : firstLitC opC (c :: rest) = none := by
      simp only [opC, firstLitC, e5]
      simp [stripLit, b2, b3, b4, b5, b6]
    -- `$` and `{` are punctuation when no name follows
    have span : c = '$' ∨ c = '{' → (spanWhile isNameChar rest).1 = [] := fun h' =>
      congrArg Prod.fst (spanWhile_append_stopAt isNameChar [] rest rfl (hn h'))
    have evar : varRule (c :: rest) = none := by
      by_cases h' : c = '$'
      · simp [varRule, headRule, h', span (Or.inl h')]
      · simp [varRule, headRule, h']
    have eparam : paramRule (c :: rest) = none := by
      by_cases h' : c = '{'
      · simp [paramRule, headRule, h', span (Or.inr h')]
      · simp [paramRule, headRule, h']
    simp only [spellTok, List.cons_append, List.nil_append, lexOne_sym c rest a1 a2, List.findSome?_cons, symRule,
      litRule, commentRule, strRule, headRule, blankRule, punctRule, e3, e4, e6, eop, evar, eparam, a3, a4, a5, a6,
      Option.map_none, Bool.false_eq_true, if_false, if_true]
    simp [stripLit, b1, b2]

theorem spellTok_head (t : Tok) (h : TokWF t) :
    ∃ c cs, spellTok t = c :: cs ∧ isBlank c = false := by
  have hl := lexOne_spell_ok t h [] (okAfter_nil t)
  rw [List.append_nil] at hl
  cases hs : spellTok t with
  | nil =>
    rw [hs, show lexOne [] = none from by decide] at hl
    cases hl
  | cons c cs =>
    refine ⟨c, cs, rfl, ?_⟩
    cases hb : isBlank c with
    | false => rfl
    | true =>
      obtain ⟨_, _, _, e⟩ := lexOne_blank_class c hb cs
      rw [hs, e] at hl
      cases hl

/-- A blank may follow every token (but a comment would swallow it). -/
theorem okAfter_blank (t : Tok) (ht : t ≠ .comment) (c : Char) (rest : List Char)
    (hc : isBlank c = true) : okAfter t (c :: rest) = true := by
  have F : isWordChar c = false ∧ isNameChar c = false ∧ isDigit c = false ∧ isHexDigit c = false ∧
      dateCont c = false ∧ c ≠ '-' ∧ c ≠ '=' ∧ c ≠ '&' ∧ c ≠ '|' ∧ c ≠ '/' := by
    rcases isBlank_cases hc with rfl | rfl | rfl | rfl <;> decide
  obtain ⟨f1, f2, f3, f4, f5, f6, f7, f8, f9, f10⟩ := F
  cases t with
  | comment => exact absurd rfl ht
  | hex ds => cases rest <;> simp [okAfter, f4]
  | op s =>
    simp only [okAfter, canFollow, opFollow]
    split
    · simp [f6, f7]
    · split <;> simp [f7]
  | punct p =>
    simp only [okAfter, canFollow, punctFollow]
    split
    · simp [f2]
    · split
      · rename_i hp
        simp only [Bool.or_eq_true, beq_iff_eq] at hp
        rcases hp with ((rfl | rfl) | rfl) | rfl <;> simp [f7, f8, f9, f10]
      · rfl
  | int ds => simp [okAfter, canFollow, f3, f6]
  | _ => simp [okAfter, canFollow, f1, f2, f5]

theorem okAfter_of_needSep (t next : Tok) (h : needSep t next = false) (more : List Char) :
    okAfter t (spellTok next ++ more) = true := by
  unfold needSep at h
  cases hs : spellTok next with
  | nil => rw [hs] at h; cases t <;> simp at h
  | cons c cs =>
    rw [hs] at h
    cases t with
    | hex ds =>
      cases cs with
      | nil =>
        simp only [Bool.eq_false_iff] at h
        cases more <;> simp [okAfter, h]
      | cons d cs => simp only [List.cons_append, okAfter, h, Bool.not_false]
    | _ => simpa [okAfter] using h

theorem spellWith_nil (gaps : List (List Char)) : spellWith gaps [] = [] := by
  cases gaps <;> rfl

theorem spellWith_cons (gaps : List (List Char)) (t : Tok) (ts : List Tok) :
    spellWith gaps (t :: ts) = spellTok t ++ (gaps.headD [] ++ spellWith gaps.tail ts) := by
  cases gaps <;> simp [spellWith]

theorem layoutOK_cons {gaps : List (List Char)} {t : Tok} {ts : List Tok}
    (h : layoutOK gaps (t :: ts) = true) :
    (gaps.headD []).all isBlank = true ∧ layoutOK gaps.tail ts = true ∧
      ∀ t' ts', ts = t' :: ts' → gaps.headD [] ≠ [] ∨ needSep t t' = false := by
  cases gaps with
  | nil =>
    cases ts with
    | nil => exact ⟨rfl, rfl, fun _ _ e => by cases e⟩
    | cons t' ts' =>
      simp only [layoutOK, Bool.and_eq_true, Bool.not_eq_true'] at h
      exact ⟨rfl, h.2, fun _ _ e => by cases e; exact Or.inr h.1⟩
  | cons g gs =>
    cases ts with
    | nil =>
      simp only [layoutOK] at h
      exact ⟨h, by cases gs <;> rfl, fun _ _ e => by cases e⟩
    | cons t' ts' =>
      simp only [layoutOK, Bool.and_eq_true, Bool.or_eq_true, Bool.not_eq_true',
        List.isEmpty_eq_false_iff] at h
      exact ⟨h.1.1, h.2, fun _ _ e => by cases e; exact h.1.2⟩

theorem stopAt_spellWith (gaps : List (List Char)) (ts : List Tok) (h : ∀ t ∈ ts, TokWF t) :
    stopAt isBlank (spellWith gaps ts) = true := by
  cases ts with
  | nil => rw [spellWith_nil]; rfl
  | cons t ts =>
    obtain ⟨c, cs, hs, hc⟩ := spellTok_head t (h t (List.mem_cons_self ..))
    simp [spellWith_cons, hs, stopAt, hc]

theorem Lexes_spellWith (ts : List Tok) : ∀ (gaps : List (List Char)), (∀ t ∈ ts, TokWF t) →
    LayoutOK gaps ts → Lexes (spellWith gaps ts) ts := by
  induction ts with
  | nil => intro gaps _ _; rw [spellWith_nil]; exact Lexes.nil
  | cons t ts ih =>
    intro gaps hwf hl
    have ht := hwf t (List.mem_cons_self ..)
    have hts : ∀ t' ∈ ts, TokWF t' := fun t' h' => hwf t' (List.mem_cons_of_mem _ h')
    obtain ⟨hg, hl', hsep⟩ := layoutOK_cons hl
    have hne : t ≠ .comment := by rintro rfl; exact absurd ht (by decide)
    rw [spellWith_cons]
    have hok : okAfter t (gaps.headD [] ++ spellWith gaps.tail ts) = true := by
      cases hgap : gaps.headD [] with
      | cons c g =>
        rw [hgap] at hg
        simp only [List.all_cons, Bool.and_eq_true] at hg
        exact okAfter_blank t hne c _ hg.1
      | nil =>
        rw [List.nil_append]
        cases ts with
        | nil => rw [spellWith_nil]; exact okAfter_nil t
        | cons t' ts' =>
          rcases hsep t' ts' rfl with h | h
          · exact absurd hgap h
          · rw [spellWith_cons]; exact okAfter_of_needSep t t' h _
    have h1 := lexOne_spell_ok t ht _ hok
    obtain ⟨c, cs, hs, _⟩ := spellTok_head t ht
    refine Lexes.tok h1 (by simp [hs]; omega) ?_
    exact Lexes_blank_prefix (stopAt_spellWith _ ts hts) (ih gaps.tail hts hl') _ hg

/-- **Round trip over layouts**, with leading blanks: lexing well-formed tokens, spelled with any
admissible layout, gives the tokens back. -/
theorem lex_spellWith_lead (lead : List Char) (ts : List Tok) (gaps : List (List Char))
    (hlead : lead.all isBlank = true) (hwf : ∀ t ∈ ts, TokWF t) (hl : LayoutOK gaps ts) :
    lex (lead ++ spellWith gaps ts) = some ts :=
  lex_of_Lexes (Lexes_blank_prefix (stopAt_spellWith gaps ts hwf) (Lexes_spellWith ts gaps hwf hl) _ hlead)

/-- **C14, character level, every admissible layout**: the tokens come back. -/
theorem lex_spellWith (ts : List Tok) (gaps : List (List Char)) (hwf : ∀ t ∈ ts, TokWF t)
    (hl : LayoutOK gaps ts) : lex (spellWith gaps ts) = some ts :=
  lex_spellWith_lead [] ts gaps rfl hwf hl

theorem spell_eq_spellWith (ts : List Tok) :
    spell ts = spellWith (List.replicate ts.length [' ']) ts := by
  induction ts with
  | nil => rfl
  | cons t ts ih => simp [spell, spellWith, List.replicate_succ, ih]

theorem layoutOK_spaces (ts : List Tok) : LayoutOK (List.replicate ts.length [' ']) ts := by
  unfold LayoutOK
  induction ts with
  | nil => rfl
  | cons t ts ih =>
    cases ts with
    | nil => rfl
    | cons t' ts' =>
      simp only [List.length_cons, List.replicate_succ] at ih ⊢
      simp only [layoutOK, ih, Bool.and_true]
      rfl

theorem lex_spell_corollary (ts : List Tok) (h : ∀ t ∈ ts, TokWF t) : lex (spell ts) = some ts := by
  rw [spell_eq_spellWith]
  exact lex_spellWith ts _ h (layoutOK_spaces ts)

theorem parseBlockText_spellWith (lead : List Char) (ts : List Tok) (gaps : List (List Char))
    (hlead : lead.all isBlank = true) (hwf : ∀ t ∈ ts, TokWF t) (hl : LayoutOK gaps ts) :
    parseBlockText (lead ++ spellWith gaps ts) = parseItems (fuelFor ts) false ts := by
  simp [parseBlockText, lex_spellWith_lead lead ts gaps hlead hwf hl]

theorem parseAuthorizerText_spellWith (lead : List Char) (ts : List Tok) (gaps : List (List Char))
    (hlead : lead.all isBlank = true) (hwf : ∀ t ∈ ts, TokWF t) (hl : LayoutOK gaps ts) :
    parseAuthorizerText (lead ++ spellWith gaps ts) = parseItems (fuelFor ts) true ts := by
  simp [parseAuthorizerText, lex_spellWith_lead lead ts gaps hlead hwf hl]

/-- Convenience form for concrete texts: exhibit the layout. -/
theorem lex_of_layout (s lead : List Char) (gaps : List (List Char)) (ts : List Tok)
    (hs : s = lead ++ spellWith gaps ts) (hlead : lead.all isBlank = true)
    (hwf : ∀ t ∈ ts, TokWF t) (hl : LayoutOK gaps ts) : lex s = some ts :=
  hs ▸ lex_spellWith_lead lead ts gaps hlead hwf hl

/-- The same for a text written as a literal `"…".toList`: the literal is `String.ofList` of its characters, so
`hs` compares character lists and the kernel does not decode the literal. -/
theorem lex_of_layout_lit (l lead : List Char) (gaps : List (List Char)) (ts : List Tok)
    (hs : l = lead ++ spellWith gaps ts) (hlead : lead.all isBlank = true)
    (hwf : ∀ t ∈ ts, TokWF t) (hl : LayoutOK gaps ts) : lex (String.ofList l).toList = some ts :=
  lex_of_layout _ lead gaps ts (String.toList_ofList.trans hs) hlead hwf hl

/-- After a token that tolerates every character (Keyword, Dot, Arrow, `||`, `&&`, String,
Parameter, most operators and punctuation) no separator is ever needed. -/
theorem needSep_free (t next : Tok) (hfree : ∀ c, canFollow t c = true) (hhex : ∀ ds, t ≠ .hex ds)
    (hn : spellTok next ≠ []) : needSep t next = false := by
  unfold needSep
  cases hs : spellTok next with
  | nil => exact absurd hs hn
  | cons c cs =>
    cases t with
    | hex ds => exact absurd rfl (hhex ds)
    | _ => simp [hfree]

theorem spellTok_ne_nil (t : Tok) (h : TokWF t) : spellTok t ≠ [] := by
  obtain ⟨c, cs, hs, _⟩ := spellTok_head t h
  rw [hs]; exact List.cons_ne_nil _ _

/-- `(`, `[`, `,` (and `)`, `]`, `;`, `!`, …) in front of ANY well-formed token. -/
theorem needSep_open (p : Char) (hp : p ∈ "[!@%^#()_}:;',?".toList) (next : Tok) (h : TokWF next) :
    needSep (.punct p) next = false := by
  refine needSep_free _ _ (fun c => ?_) (fun _ => Tok.noConfusion) (spellTok_ne_nil next h)
  have : ∀ p ∈ "[!@%^#()_}:;',?".toList, (p == '$' || p == '{') = false ∧
      (p == '&' || p == '|' || p == '=' || p == '/') = false := by decide
  simp [canFollow, punctFollow, this p hp]

/-- `,` `)` `]` directly after ANY well-formed token (the mirror image of `needSep_open`):
no rule of the lexer reads on over one of them. -/
theorem needSep_close (a : Tok) (ha : TokWF a) (p : Char) (hp : p ∈ [',', ')', ']']) :
    needSep a (.punct p) = false := by
  have F : ∀ c ∈ [',', ')', ']'], isNameChar c = false ∧ isWordChar c = false ∧ isDigit c = false ∧
      isHexDigit c = false ∧ dateCont c = false ∧ c ≠ '-' ∧ c ≠ '=' ∧
      (c == '&' || c == '|' || c == '=' || c == '/') = false := by decide
  obtain ⟨f1, f2, f3, f4, f5, f6, f7, f8⟩ := F p hp
  cases a with
  | comment => cases ha
  | punct q =>
    simp only [needSep, spellTok, canFollow, punctFollow, f1]
    split
    · rfl
    · split
      · rename_i hq
        rw [Bool.not_eq_false', bne_iff_ne]
        rintro rfl
        rw [f8] at hq
        cases hq
      · rfl
  | op s => simp [needSep, spellTok, canFollow, opFollow, f6, f7]
  | _ => simp [needSep, spellTok, canFollow, *]

/-- `.` in front of any well-formed token (`$u.starts_with`, `$u.length`). -/
theorem needSep_dot (next : Tok) (h : TokWF next) : needSep .dot next = false :=
  needSep_free _ _ (fun _ => rfl) (fun _ => Tok.noConfusion) (spellTok_ne_nil next h)

theorem needSep_str (s : List Char) (next : Tok) (h : TokWF next) : needSep (.str s) next = false :=
  needSep_free _ _ (fun _ => rfl) (fun _ => Tok.noConfusion) (spellTok_ne_nil next h)

/-- `,` `)` `]` `;` `(` `.` directly after a name-like or literal token, whatever its payload. -/
theorem needSep_closing (c : Char) (hc : c ∈ [',', ')', ']', ';', '(', '.']) :
    (∀ s, needSep (.ident s) (.punct c) = false) ∧ (∀ s, needSep (.var s) (.punct c) = false) ∧
    (∀ s, needSep (.func s) (.punct c) = false) ∧ (∀ b, needSep (.bool b) (.punct c) = false) ∧
    (∀ ds, needSep (.int ds) (.punct c) = false) ∧ (∀ ds, needSep (.hex ds) (.punct c) = false) ∧
    (∀ s, needSep (.str s) (.punct c) = false) ∧ (∀ s, needSep (.param s) (.punct c) = false) ∧
    (∀ p ∈ [')', ']'], needSep (.punct p) (.punct c) = false) := by
  have F : ∀ c ∈ [',', ')', ']', ';', '(', '.'], isNameChar c = false ∧ isWordChar c = false ∧
      isDigit c = false ∧ isHexDigit c = false ∧ (c == '-') = false := by decide
  obtain ⟨f1, f2, f3, f4, f5⟩ := F c hc
  clear F
  refine ⟨?_, ?_, ?_, ?_, ?_, ?_, ?_, ?_, ?_⟩
  case refine_9 =>
    intro p hp
    simp only [List.mem_cons, List.not_mem_nil, or_false] at hp
    rcases hp with rfl | rfl <;> simp [needSep, spellTok, canFollow, punctFollow]
  all_goals (intros; simp_all [needSep, spellTok, canFollow])

/-- The same for dates, without `(` and without `.` (a fraction may follow a date). -/
theorem needSep_date_closing (c : Char) (hc : c ∈ [',', ')', ']', ';']) (s : List Char) :
    needSep (.date s) (.punct c) = false := by
  have F : ∀ c ∈ [',', ')', ']', ';'], dateCont c = false := by decide
  simp [needSep, spellTok, canFollow, F c hc]

/-- `.` after a variable, a string, a parameter, `)` (what follows the dot: `needSep_dot`). -/
theorem needSep_before_dot :
    (∀ n, needSep (.var n) .dot = false) ∧ (∀ s, needSep (.str s) .dot = false) ∧
    (∀ n, needSep (.param n) .dot = false) ∧ needSep (.punct ')') .dot = false := by
  refine ⟨?_, ?_, ?_, ?_⟩ <;> intros <;> simp [needSep, spellTok, canFollow, punctFollow] <;> decide

/-- The operator `-` in front of any well-formed token: no rule extends a `-` (there is no
`--`, `-=`, `->` token), so the sign of an integer literal may touch its digits (`-5`) and two
minus signs may touch each other (`1--5`). -/
theorem needSep_minus (next : Tok) (h : TokWF next) : needSep (.op "-") next = false :=
  needSep_free _ _ (fun _ => by simp [canFollow, opFollow]) (fun _ => Tok.noConfusion)
    (spellTok_ne_nil next h)

theorem needSep_minus_int (ds : List Char) (h : TokWF (.int ds)) : needSep (.op "-") (.int ds) = false :=
  needSep_minus _ h

/-! ## `needSep = false`: the junctions of the printed style, read back via `lex_spellWith` -/

example : lex "right(".toList = some [.ident "right", .punct '('] :=
  lex_of_layout_lit _ [] [] _ (by decide +kernel) rfl (by decide +kernel) (by decide +kernel)
example : lex "\"a\",$x)2]true;hex:0a,2020-01-01T00:00:00Z){p};".toList =
    some [.str ['a'], .punct ',', .var "x", .punct ')', .int ['2'], .punct ']', .bool true, .punct ';',
      .hex ['0', 'a'], .punct ',', .date "2020-01-01T00:00:00Z".toList, .punct ')', .param "p", .punct ';'] :=
  lex_of_layout_lit _ [] [] _ (by decide +kernel) rfl (by decide +kernel) (by decide +kernel)
example : lex "(\"a\",[1,$x,true,f(hex:,{p}".toList =
    some [.punct '(', .str ['a'], .punct ',', .punct '[', .int ['1'], .punct ',', .var "x", .punct ',',
      .bool true, .punct ',', .ident "f", .punct '(', .hex [], .punct ',', .param "p"] :=
  lex_of_layout_lit _ [] [] _ (by decide +kernel) rfl (by decide +kernel) (by decide +kernel)
example : lex "$u.length()".toList = some [.var "u", .dot, .func "length", .punct '(', .punct ')'] :=
  lex_of_layout_lit _ [] [] _ (by decide +kernel) rfl (by decide +kernel) (by decide +kernel)
example : lex "\"a\".contains(\"b\").starts_with(x)".toList =
    some [.str ['a'], .dot, .func "contains", .punct '(', .str ['b'], .punct ')', .dot,
      .ident "starts_with", .punct '(', .ident "x", .punct ')'] :=
  lex_of_layout_lit _ [] [] _ (by decide +kernel) rfl (by decide +kernel) (by decide +kernel)
example : lex "!$x&&!(".toList = some [.punct '!', .var "x", .andOp, .punct '!', .punct '('] :=
  lex_of_layout_lit _ [] [] _ (by decide +kernel) rfl (by decide +kernel) (by decide +kernel)
/-- Less obvious junctions that are harmless: no boundary after a keyword; an integer stops at a
letter; `-` is always an operator; `:` is no word character; `<` in front of anything but `-` `=`. -/
example : lex "check ifx(1a-2<3)<length:true".toList =
    some [.keyword "check if", .ident "x", .punct '(', .int ['1'], .ident "a", .op "-", .int ['2'],
      .op "<", .int ['3'], .punct ')', .op "<", .func "length", .punct ':', .bool true] :=
  lex_of_layout_lit _ [] [] _ (by decide +kernel) rfl (by decide +kernel) (by decide +kernel)
/-- Signed integer literals: the sign is the Operator token `-`; `-5` (what the library prints)
and `- 5` are the same two tokens, `1 - -5` (the printed style) and `1--5` the same four (there
is no `--` operator); after `(`, `[`, `,`, `!` and an operator no blank is needed. -/
example : lex "-5".toList = some [.op "-", .int ['5']] :=
  lex_of_layout_lit _ [] [] _ (by decide +kernel) rfl (by decide +kernel) (by decide +kernel)
example : lex "- 5".toList = some [.op "-", .int ['5']] :=
  lex_of_layout_lit _ [] [[' ']] _ (by decide +kernel) rfl (by decide +kernel) (by decide +kernel)
example : lex "1 - -5".toList = some [.int ['1'], .op "-", .op "-", .int ['5']] :=
  lex_of_layout_lit _ [] [[' '], [' '], []] _ (by decide +kernel) rfl (by decide +kernel) (by decide +kernel)
example : lex "1--5".toList = some [.int ['1'], .op "-", .op "-", .int ['5']] :=
  lex_of_layout_lit _ [] [] _ (by decide +kernel) rfl (by decide +kernel) (by decide +kernel)
example : lex "f(-1,[-2,-3],!-4*-5)".toList =
    some [.ident "f", .punct '(', .op "-", .int ['1'], .punct ',', .punct '[', .op "-", .int ['2'],
      .punct ',', .op "-", .int ['3'], .punct ']', .punct ',', .punct '!', .op "-", .int ['4'],
      .op "*", .op "-", .int ['5'], .punct ')'] :=
  lex_of_layout_lit _ [] [] _ (by decide +kernel) rfl (by decide +kernel) (by decide +kernel)
/-- …but `<` directly in front of the sign is the arrow `<-` (`needSep (.op "<") (.op "-") = true`):
the printed style writes `$x < -5`. -/
example : needSep (.op "<") (.op "-") = true ∧
    lex "$x<-5".toList = some [.var "x", .arrow, .int ['5']] ∧
    lex "$x < -5".toList = some [.var "x", .op "<", .op "-", .int ['5']] := by
  simp only [lex_eq, String.reduceToList]; decide +kernel
/-- Gaps may be any mixture of blanks, also in front of the first and after the last token. -/
example : lex " \n\tallow if \t\r\n true;\n".toList = some [.keyword "allow if", .bool true, .punct ';'] :=
  lex_of_layout_lit _ " \n\t".toList [" \t\r\n ".toList, [], ['\n']] _ (by decide +kernel) (by decide +kernel)
    (by decide +kernel) (by decide +kernel)

/-- **The printed style** (`SymbolDebugger`, datalog/symbol.go): the layout is given explicitly. -/
example :
    lex "right(\"file1\", \"read\") <- user($u), $u.starts_with(\"a\") || 1 + 2 == 3;".toList =
    some [.ident "right", .punct '(', .str "file1".toList, .punct ',', .str "read".toList, .punct ')',
      .arrow, .ident "user", .punct '(', .var "u", .punct ')', .punct ',',
      .var "u", .dot, .ident "starts_with", .punct '(', .str ['a'], .punct ')',
      .orOp, .int ['1'], .op "+", .int ['2'], .op "==", .int ['3'], .punct ';'] :=
  lex_of_layout_lit _ []
    [[], [], [], [' '], [], [' '],
     [' '], [], [], [], [], [' '],
     [], [], [], [], [], [' '],
     [' '], [' '], [' '], [' '], [' '], [], []] _
    (by decide +kernel) rfl (by decide +kernel) (by decide +kernel)

/-! ## `needSep = true`: what the lexer does with the juxtaposition

For every class of pairs with `needSep = true`, a pair (or, where the damage needs a third token, a
list whose OTHER junctions are all admissible) whose juxtaposition is read differently. -/

/-- Function / Bool need a word boundary. -/
example : needSep (.func "length") (.ident "y") = true ∧ lex "lengthy".toList = some [.ident "lengthy"] := by
  simp only [lex_eq, String.reduceToList]; decide +kernel
example : needSep (.func "length") (.int ['1']) = true ∧ lex "length1".toList = some [.ident "length1"] := by
  simp only [lex_eq, String.reduceToList]; decide +kernel
example : needSep (.bool true) (.ident "x") = true ∧ lex "truex".toList = some [.ident "truex"] := by
  simp only [lex_eq, String.reduceToList]; decide +kernel
example : needSep (.bool false) (.int ['0']) = true ∧ lex "false0".toList = some [.ident "false0"] := by
  simp only [lex_eq, String.reduceToList]; decide +kernel
/-- Names run on through letters, digits, `_`, `:`. -/
example : needSep (.ident "a") (.ident "b") = true ∧ lex "ab".toList = some [.ident "ab"] := by
  simp only [lex_eq, String.reduceToList]; decide +kernel
example : needSep (.ident "a") (.int ['1']) = true ∧ lex "a1".toList = some [.ident "a1"] := by
  simp only [lex_eq, String.reduceToList]; decide +kernel
example : needSep (.ident "a") (.punct ':') = true ∧ lex "a:".toList = some [.ident "a:"] := by
  simp only [lex_eq, String.reduceToList]; decide +kernel
example : needSep (.ident "a") (.bool true) = true ∧ lex "atrue".toList = some [.ident "atrue"] := by
  simp only [lex_eq, String.reduceToList]; decide +kernel
example : needSep (.ident "le") (.ident "ngth") = true ∧ lex "length".toList = some [.func "length"] := by
  simp only [lex_eq, String.reduceToList]; decide +kernel
example : needSep (.var "u") (.ident "x") = true ∧ lex "$ux".toList = some [.var "ux"] := by
  simp only [lex_eq, String.reduceToList]; decide +kernel
example : needSep (.var "u") (.punct '_') = true ∧ lex "$u_".toList = some [.var "u_"] := by
  simp only [lex_eq, String.reduceToList]; decide +kernel
/-- Integers run on through digits. -/
example : needSep (.int ['1']) (.int ['2']) = true ∧ lex "12".toList = some [.int ['1', '2']] := by
  simp only [lex_eq, String.reduceToList]; decide +kernel
example : needSep (.int ['2', '0', '2', '0']) (.date "2020-01-01T00:00:00".toList) = true ∧
    lex "20202020-01-01T00:00:00".toList = none := by simp only [lex_eq, String.reduceToList]; decide +kernel
/-- Hex literals run on through PAIRS of hex digits; a single hex digit is dangerous because of what
may follow it (`1` then `a` is an admissible junction). -/
example : needSep (.hex ['a', 'b']) (.int ['1', '2']) = true ∧ lex "hex:ab12".toList = some [.hex "ab12".toList] := by
  simp only [lex_eq, String.reduceToList]; decide +kernel
example : needSep (.hex []) (.ident "cafe") = true ∧ lex "hex:cafe".toList = some [.hex "cafe".toList] := by
  simp only [lex_eq, String.reduceToList]; decide +kernel
example : needSep (.hex []) (.ident "ax") = false ∧ lex "hex:ax".toList = some [.hex [], .ident "ax"] := by
  simp only [lex_eq, String.reduceToList]; decide +kernel
example : needSep (.hex ['a', 'b']) (.int ['1']) = true ∧ needSep (.int ['1']) (.ident "a") = false ∧
    lex "hex:ab1a".toList = some [.hex "ab1a".toList] := by simp only [lex_eq, String.reduceToList]; decide +kernel
/-- Operators and punctuation that combine. -/
example : needSep (.op "<") (.op "-") = true ∧ lex "<-".toList = some [.arrow] := by
  simp only [lex_eq, String.reduceToList]; decide +kernel
example : needSep (.op "<") (.punct '=') = true ∧ lex "<=".toList = some [.op "<="] := by
  simp only [lex_eq, String.reduceToList]; decide +kernel
example : needSep (.op "<") (.op "==") = true ∧ lex "<==".toList = some [.op "<=", .punct '='] := by
  simp only [lex_eq, String.reduceToList]; decide +kernel
example : needSep (.op ">") (.punct '=') = true ∧ lex ">=".toList = some [.op ">="] := by
  simp only [lex_eq, String.reduceToList]; decide +kernel
example : needSep (.punct '=') (.punct '=') = true ∧ lex "==".toList = some [.op "=="] := by
  simp only [lex_eq, String.reduceToList]; decide +kernel
example : needSep (.punct '|') (.punct '|') = true ∧ lex "||".toList = some [.orOp] := by
  simp only [lex_eq, String.reduceToList]; decide +kernel
example : needSep (.punct '|') (.orOp) = true ∧ lex "|||".toList = some [.orOp, .punct '|'] := by
  simp only [lex_eq, String.reduceToList]; decide +kernel
example : needSep (.punct '&') (.punct '&') = true ∧ lex "&&".toList = some [.andOp] := by
  simp only [lex_eq, String.reduceToList]; decide +kernel
example : needSep (.punct '/') (.punct '/') = true ∧ lex "//".toList = some [.comment] := by
  simp only [lex_eq, String.reduceToList]; decide +kernel
example : needSep (.punct '$') (.ident "x") = true ∧ lex "$x".toList = some [.var "x"] := by
  simp only [lex_eq, String.reduceToList]; decide +kernel
example : needSep (.punct '$') (.int ['1']) = true ∧ lex "$1".toList = some [.var "1"] := by
  simp only [lex_eq, String.reduceToList]; decide +kernel
/-- `{` in front of a name: dangerous because of a `}` that may follow the name. -/
example : needSep (.punct '{') (.ident "x") = true ∧ needSep (.ident "x") (.punct '}') = false ∧
    lex "{x}".toList = some [.param "x"] := by simp only [lex_eq, String.reduceToList]; decide +kernel
/-- Dates: a fraction grows by digits; a date without zone takes a fraction (`.` then digits, both
junctions admissible on their own) or a zone. -/
example : needSep (.date "2020-01-01T00:00:00.5".toList) (.int ['5']) = true ∧
    lex "2020-01-01T00:00:00.55".toList = some [.date "2020-01-01T00:00:00.55".toList] := by
  simp only [lex_eq, String.reduceToList]; decide +kernel
example : needSep (.date "2020-01-01T00:00:00".toList) .dot = true ∧ needSep .dot (.int ['5']) = false ∧
    lex "2020-01-01T00:00:00.5".toList = some [.date "2020-01-01T00:00:00.5".toList] := by
  simp only [lex_eq, String.reduceToList]; decide +kernel
example : needSep (.date "2020-01-01T00:00:00".toList) (.op "+") = true ∧ needSep (.op "+") (.int ['0', '2']) = false ∧
    needSep (.int ['0', '2']) (.punct ':') = false ∧ needSep (.punct ':') (.int ['0', '0']) = false ∧
    lex "2020-01-01T00:00:00+02:00".toList = some [.date "2020-01-01T00:00:00+02:00".toList] := by
  simp only [lex_eq, String.reduceToList]; decide +kernel
/-- A comment swallows everything up to the end of the line (and is not well-formed anyway). -/
example : needSep .comment (.ident "x") = true ∧ lex "//x".toList = some [.comment] := by
  simp only [lex_eq, String.reduceToList]; decide +kernel
/-- A token with an empty spelling is not well-formed. -/
example : needSep .dot (.int []) = true ∧ ¬ TokWF (.int []) := by decide +kernel

/-! Conservative classes (`needSep = true` although no admissible continuation is read
differently): the criterion looks at one character (two for Hex) of the next token only.
* a 4-digit integer in front of `-`: the Date rule needs `dddd-dd-ddT…`, and no well-formed token
  starts with `T`, but that is five tokens away;
* a date in front of `:`; a date WITH a zone in front of anything; a date without fraction in
  front of a digit: `dateCont` does not look at the shape of the date. -/
example : needSep (.int "2020".toList) (.op "-") = true ∧
    lex "2020-1".toList = some [.int "2020".toList, .op "-", .int ['1']] := by
  simp only [lex_eq, String.reduceToList]; decide +kernel
example : needSep (.int "202".toList) (.op "-") = false := by decide +kernel
example : needSep (.date "2020-01-01T00:00:00".toList) (.punct ':') = true ∧
    lex "2020-01-01T00:00:00:".toList = some [.date "2020-01-01T00:00:00".toList, .punct ':'] := by
  simp only [lex_eq, String.reduceToList]; decide +kernel
example : needSep (.date "2020-01-01T00:00:00Z".toList) (.int ['1']) = true ∧
    lex "2020-01-01T00:00:00Z1".toList = some [.date "2020-01-01T00:00:00Z".toList, .int ['1']] := by
  simp only [lex_eq, String.reduceToList]; decide +kernel
example : needSep (.date "2020-01-01T00:00:00".toList) (.int ['1']) = true ∧
    lex "2020-01-01T00:00:001".toList = some [.date "2020-01-01T00:00:00".toList, .int ['1']] := by
  simp only [lex_eq, String.reduceToList]; decide +kernel

end Biscuit.C14Layout
