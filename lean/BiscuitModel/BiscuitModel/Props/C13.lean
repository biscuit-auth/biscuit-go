/-
Props/C13 — Reset gives a clean authorizer.

Histories are lists of `AuthOp` run by `runSeq` (adds, authorize, query, reset,
save/load) with arbitrary content and any outcome per step. `false` selects the
repaired `Authorize`; `true` the pinned one that overwrites the base world (D9).
`finalState`, the state in which a history ends, is declared in Proofs/Authorizer.
-/
import BiscuitModel.Proofs.Authorizer

namespace Biscuit.C13
open Biscuit

/-- Invariant: the base world is the one fixed at construction. -/
theorem base_world_invariant (cfg : EvalCfg) (toks : List Token) (lim : Limits) (t : Nat)
    (h : List AuthOp) :
    (finalState cfg false toks { tok := t, auth := AuthState.fresh lim } h).auth.baseWorld = World.empty ∧
    (finalState cfg false toks { tok := t, auth := AuthState.fresh lim } h).auth.limits = lim := by
  exact finalState_baseWorld_limits cfg toks h _ rfl

/-- **C13.** After any history, `Reset` yields exactly a newly created authorizer. -/
theorem reset_eq_fresh (cfg : EvalCfg) (toks : List Token) (lim : Limits) (t : Nat) (h : List AuthOp) :
    reset (finalState cfg false toks { tok := t, auth := AuthState.fresh lim } h).auth = AuthState.fresh lim := by
  obtain ⟨hb, hl⟩ := base_world_invariant cfg toks lim t h
  unfold reset
  rw [hb, hl]
  rfl

/-- Consequently every continuation behaves as on a fresh authorizer for the token the
authorizer is then attached to: nothing added or derived before the reset has any
influence on later outcomes or query results. -/
theorem reset_forgets (cfg : EvalCfg) (toks : List Token) (lim : Limits) (t : Nat)
    (h k : List AuthOp) :
    runSeq cfg false toks { tok := t, auth := AuthState.fresh lim } (h ++ .reset :: k) =
      runSeq cfg false toks { tok := t, auth := AuthState.fresh lim } h ++
      .none :: runSeq cfg false toks
        { tok := (finalState cfg false toks { tok := t, auth := AuthState.fresh lim } h).tok,
          auth := AuthState.fresh lim } k := by
  rw [runSeq_append]
  congr 1
  simp only [runSeq, stepOpSeq]
  rw [reset_eq_fresh]

/-! D9, pinned: a 'write' request is accepted by a token restricted to 'read' when it
follows a successful 'read' on the same authorizer. -/

def cfg0 : EvalCfg := { rx := fun _ _ => none }
def opRead : DFact := { name := [111], args := [.atom (.str [114])] }      -- o("r")
def opWrite : DFact := { name := [111], args := [.atom (.str [119])] }     -- o("w")
def chkRead : Check := { queries := [{ head := { name := [113], terms := [] },
                                       body := [{ name := [111], terms := [.const (.atom (.str [114]))] }], exprs := [] }] }
def allowAll : Policy := { kind := .allow, queries := [{ head := { name := [113], terms := [] }, body := [], exprs := [[.value (.const (.atom (.bool true)))]] }] }
def tokRead : Token := { authority := { facts := [], rules := [], checks := [chkRead] }, blocks := [] }
def lim0 : Limits := { maxFacts := 1000, maxIter := 100 }
def round1 : List AuthOp := [.addFact opRead, .addPolicy allowAll, .authorize]
def round2 : List AuthOp := [.addFact opWrite, .addPolicy allowAll, .authorize]

theorem reset_leaks_pinned :
    runSeq cfg0 true [tokRead] { tok := 0, auth := AuthState.fresh lim0 } (round1 ++ .reset :: round2)
      = [.none, .none, .verdict .ok, .none, .none, .none, .verdict .ok] := by
  decide

/-- The repaired code refuses the second request, as a fresh authorizer does. -/
theorem reset_clean_repaired :
    runSeq cfg0 false [tokRead] { tok := 0, auth := AuthState.fresh lim0 } (round1 ++ .reset :: round2)
      = [.none, .none, .verdict .ok, .none, .none, .none, .verdict (.checksFailed [.block 0 0])] := by
  decide

end Biscuit.C13
