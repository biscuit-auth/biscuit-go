/-
Props/C04 — the authorization verdict follows the specified decision procedure.

The specification (Spec/Decision) is declarative: scopes are closures defined by
derivability; a check holds when one of its queries is satisfiable in its scope; the
verdict is decided by the checks and by the first policy that holds. The theorems
relate `Model/Authorizer.authorize` — which follows the Go code's evaluation order —
to that specification, inside the specified fragment (`WithinFragment`).
`AllChecksHold` (every check holds in its scope) is declared in Proofs/Decision.
-/
import BiscuitModel.Proofs.Decision

namespace Biscuit.C04
open Biscuit

/-- **C04, success.** Authorization succeeds exactly when every check holds in its
scope and the first policy that holds in the authority scope is an allow policy. -/
theorem authorize_ok_iff (cfg : EvalCfg) (tok : Token) (s : AuthState)
    (hf : WithinFragment cfg tok s) :
    (authorize cfg tok s).2 = .ok ↔
      AllChecksHold cfg tok s ∧
      FirstPolicyIs cfg (authorityScope cfg tok.authority s) s.policies .allow := by
  obtain ⟨w, hscope, hqp, h⟩ := authorize_policy_iff cfg tok s hf
  rw [← firstPolicy_some_iff cfg w.facts _ hscope .allow s.policies hqp]
  exact h (some .allow)

/-- **Policy denial**: all checks hold and the first policy that holds is a deny policy. -/
theorem authorize_denied_iff (cfg : EvalCfg) (tok : Token) (s : AuthState)
    (hf : WithinFragment cfg tok s) :
    (authorize cfg tok s).2 = .denied ↔
      AllChecksHold cfg tok s ∧
      FirstPolicyIs cfg (authorityScope cfg tok.authority s) s.policies .deny := by
  obtain ⟨w, hscope, hqp, h⟩ := authorize_policy_iff cfg tok s hf
  rw [← firstPolicy_some_iff cfg w.facts _ hscope .deny s.policies hqp]
  exact h (some .deny)

/-- **No matching policy**: all checks hold and no policy holds. -/
theorem authorize_nomatch_iff (cfg : EvalCfg) (tok : Token) (s : AuthState)
    (hf : WithinFragment cfg tok s) :
    (authorize cfg tok s).2 = .noMatch ↔
      AllChecksHold cfg tok s ∧
      ∀ p ∈ s.policies, ¬ PolicyHolds cfg (authorityScope cfg tok.authority s) p := by
  obtain ⟨w, hscope, hqp, h⟩ := authorize_policy_iff cfg tok s hf
  rw [← firstPolicy_none_iff cfg w.facts _ hscope s.policies hqp]
  exact h none

/-- **Check failure takes precedence**: a verification failure is reported exactly when
some check does not hold — whatever the policies say. -/
theorem authorize_checksFailed_iff (cfg : EvalCfg) (tok : Token) (s : AuthState)
    (hf : WithinFragment cfg tok s) :
    (∃ ids, (authorize cfg tok s).2 = .checksFailed ids) ↔ ¬ AllChecksHold cfg tok s := by
  obtain ⟨w, ids, _, _, hv, _, hnil⟩ := authorize_frag cfg tok s hf
  rw [hv, ← hnil]
  constructor
  · rintro ⟨ids', h⟩ rfl
    exact policyVerdict_ne _ rfl h
  · intro hne
    cases ids with
    | nil => exact absurd rfl hne
    | cons a as => exact ⟨_, rfl⟩

/-- The reported identifiers are exactly the failing checks: authorizer check `i` is
reported iff it does not hold in the authority scope, and likewise for block checks. -/
theorem failed_ids_exact (cfg : EvalCfg) (tok : Token) (s : AuthState)
    (hf : WithinFragment cfg tok s) (ids : List CheckId)
    (h : (authorize cfg tok s).2 = .checksFailed ids) :
    (∀ i, CheckId.authorizer i ∈ ids ↔
        ∃ c, s.checks[i]? = some c ∧ ¬ CheckHolds cfg (authorityScope cfg tok.authority s) c) ∧
    (∀ i, CheckId.block 0 i ∈ ids ↔
        ∃ c, tok.authority.checks[i]? = some c ∧ ¬ CheckHolds cfg (authorityScope cfg tok.authority s) c) ∧
    (∀ k i, CheckId.block (k + 1) i ∈ ids ↔
        ∃ b c, tok.blocks[k]? = some b ∧ b.checks[i]? = some c ∧
          ¬ CheckHolds cfg (blockScope cfg tok.authority s b) c) := by
  obtain ⟨w, ids', _, _, hv, hmem, _⟩ := authorize_frag cfg tok s hf
  rw [hv] at h
  obtain rfl := Except.ok.inj (finish_eq_checksFailed _ _ _ h)
  -- `FailingId` of an identifier is, by definition, the condition on its check
  exact ⟨fun i => hmem _, fun i => hmem _, fun k i => hmem _⟩

/-- In the fragment the verdict is never a run error. -/
theorem fragment_no_run_error (cfg : EvalCfg) (tok : Token) (s : AuthState)
    (hf : WithinFragment cfg tok s) (e : RunErr) : (authorize cfg tok s).2 ≠ .runError e := by
  obtain ⟨w, ids, _, _, hv, _, _⟩ := authorize_frag cfg tok s hf
  rw [hv]
  exact fun h => nomatch finish_eq_runError _ _ _ h

/-! Non-vacuity: one instance per verdict, including a failed check *with* a matching
allow policy (precedence). All are inside the fragment (no run or query error occurs). -/

def cfg0 : EvalCfg := { rx := fun _ _ => none }
def lim0 : Limits := { maxFacts := 1000, maxIter := 100 }
def fA : DFact := { name := [97], args := [.atom (.int 1)] }                         -- a(1)
def qA : DRule := { head := { name := [113], terms := [] }, body := [{ name := [97], terms := [.var [120]] }], exprs := [] }
def qB : DRule := { head := { name := [113], terms := [] }, body := [{ name := [98], terms := [] }], exprs := [] }
def tokA : Token := { authority := { facts := [fA], rules := [], checks := [{ queries := [qB, qA] }] }, blocks := [] }
def tokFail : Token := { authority := { facts := [fA], rules := [], checks := [{ queries := [qB] }] }, blocks := [] }
def withPolicies (ps : List Policy) : AuthState := ps.foldl addPolicy (AuthState.fresh lim0)

example : (authorize cfg0 tokA (withPolicies [⟨.deny, [qB]⟩, ⟨.allow, [qA]⟩, ⟨.deny, [qA]⟩])).2 = .ok := by decide
example : (authorize cfg0 tokA (withPolicies [⟨.deny, [qA]⟩, ⟨.allow, [qA]⟩])).2 = .denied := by decide
example : (authorize cfg0 tokA (withPolicies [⟨.allow, [qB]⟩])).2 = .noMatch := by decide
example : (authorize cfg0 tokFail (withPolicies [⟨.allow, [qA]⟩])).2 = .checksFailed [.block 0 0] := by decide

end Biscuit.C04
