/-
Props/C02 — attenuation can only restrict.

`authorize cfg tok s`: `tok` is any token (any authority content, any number of
earlier blocks), `s` any authorizer state (any facts, rules, checks, ordered
policies, limits, evaluated before or not), `B` any block — facts mimicking
authority facts, rules re-deriving rights, erroring expressions, anything.
-/
import BiscuitModel.Proofs.Authorizer

namespace Biscuit.C02
open Biscuit

/-- Acceptance after any number of appended blocks is acceptance of the parent. -/
theorem attenuation_monotone_suffix (cfg : EvalCfg) (tok : Token) (Bs : List Block) (s : AuthState) :
    (authorize cfg { tok with blocks := tok.blocks ++ Bs } s).2 = .ok →
    (authorize cfg tok s).2 = .ok := by
  intro h
  rw [authorize, authorizeWith_snd] at h ⊢
  exact verdictOf_append_policy cfg _ _ Bs _ (some .allow) h

/-- **C02.** If the attenuated token is accepted, so is its parent. -/
theorem attenuation_monotone (cfg : EvalCfg) (tok : Token) (B : Block) (s : AuthState) :
    (authorize cfg (tok.append B) s).2 = .ok → (authorize cfg tok s).2 = .ok :=
  attenuation_monotone_suffix cfg tok [B] s

/-- Contrapositive, as the property words it: no appended block turns a refusal
of the parent into an acceptance. -/
theorem refusal_is_stable (cfg : EvalCfg) (tok : Token) (B : Block) (s : AuthState)
    (h : (authorize cfg tok s).2 ≠ .ok) : (authorize cfg (tok.append B) s).2 ≠ .ok := by
  exact fun h' => h (attenuation_monotone cfg tok B s h')

/-- Everything computed before the block loop (authority-level world, failed
authorizer and authority checks, policy result) is a function of the authority
block and the authorizer only. -/
theorem authorityPhase_indep_blocks (cfg : EvalCfg) (A : Block) (bs bs' : List Block) (s : AuthState) :
    authorityPhase cfg (Token.mk A bs).authority s = authorityPhase cfg (Token.mk A bs').authority s := by
  rfl

/-- Failures of the parent are still failures of the attenuated token, in the same order. -/
theorem failed_checks_prefix (cfg : EvalCfg) (tok : Token) (B : Block) (s : AuthState)
    (ids ids' : List CheckId)
    (h : (authorize cfg tok s).2 = .checksFailed ids)
    (h' : (authorize cfg (tok.append B) s).2 = .checksFailed ids') : ids <+: ids' := by
  rw [authorize, authorizeWith_snd] at h h'
  exact verdictOf_append_checksFailed cfg _ _ [B] _ ids ids' h h'

/-- A run-limit or evaluation error of the parent is the verdict of the attenuated token too. -/
theorem run_error_is_stable (cfg : EvalCfg) (tok : Token) (B : Block) (s : AuthState) (e : RunErr)
    (h : (authorize cfg tok s).2 = .runError e) : (authorize cfg (tok.append B) s).2 = .runError e := by
  rw [authorize, authorizeWith_snd] at h ⊢
  exact verdictOf_append_runError cfg _ _ [B] _ e h

/-! Non-vacuity: a token whose attenuated form is accepted (so the hypothesis of
`attenuation_monotone` is satisfiable), and one where the block makes it fail. -/

def cfg0 : EvalCfg := { rx := fun _ _ => none }
def fRead : DFact := { name := [114], args := [.atom (.str [97])] }          -- r("a")
def qRead : DRule := { head := { name := [113], terms := [] },
                       body := [{ name := [114], terms := [.var [120]] }], exprs := [] }  -- q() <- r($x)
def qNever : DRule := { head := { name := [113], terms := [] },
                        body := [{ name := [122], terms := [] }], exprs := [] }           -- q() <- z()
def tok0 : Token := { authority := { facts := [fRead], rules := [], checks := [] }, blocks := [] }
def blkOk : Block := { facts := [], rules := [], checks := [{ queries := [qRead] }] }
def blkBad : Block := { facts := [], rules := [], checks := [{ queries := [qNever] }] }
def auth0 : AuthState :=
  addPolicy (AuthState.fresh { maxFacts := 1000, maxIter := 100 }) { kind := .allow, queries := [qRead] }

example : (authorize cfg0 (tok0.append blkOk) auth0).2 = .ok := by decide
example : (authorize cfg0 (tok0.append blkBad) auth0).2 = .checksFailed [.block 1 0] := by decide
example : (authorize cfg0 tok0 auth0).2 = .ok := by decide

end Biscuit.C02
