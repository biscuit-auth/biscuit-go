/-
Props/C04Content — the verdict follows from the content the authorizer holds, not from
the path by which the content arrived.

Three defects of the pinned Go library have the form "same content, different answer":

* D27 / D29 — `LoadPolicies` does not behave like typing the snapshot's content in with
  `AddFact`, `AddRule`, `AddCheck`, `AddPolicy`: checks and policies given before the load
  are replaced. In the model `load` *is* the fold of the `add*` operations
  (`load_eq_addAll`, an equality of states), so everything given before stays in force.
* D28 — `Authorize` empties the authorizer's own rule set, so a second `Authorize` on the
  same authorizer, after an `AddFact`, answers from facts derived before the addition and
  derives nothing from the new fact. In the model a used authorizer to which content is added
  answers as a new authorizer holding the same content (`authorize_after_addFact`,
  `authorize_after_addRule`, general form `authorize_after_load`), and the pinned behaviour
  is refuted on a concrete history (`second_authorize_pinned`).

`authorize` (Model/Authorizer) models the repaired library; the pinned behaviours are defined
locally (`loadReplacing`, `authorizePinnedRules`) for the counterexamples only.
-/
import BiscuitModel.Proofs.Content
import BiscuitModel.Model.Symbols

namespace Biscuit.C04Content
open Biscuit

/-- `FactSet.InsertAll` (what `LoadPolicies` uses) and repeated `FactSet.Insert` (what
repeated `AddFact` uses) build the same list: same deduplication, same order. -/
theorem insertAll_eq_foldl_insertFact (s fs : List DFact) : insertAll s fs = fs.foldl insertFact s := by
  induction fs generalizing s with
  | nil => rfl
  | cons f fs ih => rw [insertAll, List.foldl_cons, ih]

/-- **Load = typing in** (D27, D29). `LoadPolicies` leaves the authorizer in exactly the state
reached by `AddFact`, `AddRule`, `AddCheck`, `AddPolicy` on the snapshot's content, in order
(`addAll`, Proofs/Content). An equality of states, so no later operation distinguishes the two. -/
theorem load_eq_addAll (s : AuthState) (snap : Snapshot) : load s snap = addAll s snap := by
  unfold addAll
  rw [foldl_addFact, foldl_addRule, foldl_addCheck, foldl_addPolicy]
  rfl

/-- Same verdict and same state after `Authorize`, for every token. -/
theorem authorize_load_eq_addAll (cfg : EvalCfg) (tok : Token) (s : AuthState) (snap : Snapshot) :
    authorize cfg tok (load s snap) = authorize cfg tok (addAll s snap) := by
  rw [load_eq_addAll]

/-- Same result and same state after `Query`. -/
theorem query_load_eq_addAll (cfg : EvalCfg) (s : AuthState) (snap : Snapshot) (q : DRule) :
    query cfg (load s snap) q = query cfg (addAll s snap) q := by
  rw [load_eq_addAll]

/-- The same outputs for every continuation of operations (`AUTHSEQ` histories). -/
theorem runSeq_load_eq_addAll (cfg : EvalCfg) (toks : List Token) (j : Nat) (s : AuthState)
    (snap : Snapshot) (k : List AuthOp) :
    runSeq cfg false toks { tok := j, auth := load s snap } k =
      runSeq cfg false toks { tok := j, auth := addAll s snap } k := by
  rw [load_eq_addAll]

/-- **Checks given before a load stay in force** (D29). -/
theorem load_checks (s : AuthState) (snap : Snapshot) :
    (load s snap).checks = s.checks ++ snap.checks := rfl

/-- **Policies given before a load stay in force, and come first** (D29): a `deny` given before
`LoadPolicies` is still consulted before any loaded `allow`. -/
theorem load_policies (s : AuthState) (snap : Snapshot) :
    (load s snap).policies = s.policies ++ snap.policies := rfl

/-- Facts and rules given before a load stay too (D27). -/
theorem load_world (s : AuthState) (snap : Snapshot) :
    (∀ f, f ∈ (load s snap).world.facts ↔ f ∈ s.world.facts ∨ f ∈ snap.facts) ∧
    (load s snap).world.rules = s.world.rules ++ snap.rules :=
  ⟨fun f => mem_insertAll _ _ f, rfl⟩

/-- A load never re-opens a refused request by itself: every check the authorizer held is still among its
checks after a load. -/
theorem load_keeps_check (s : AuthState) (snap : Snapshot) (c : Check) (h : c ∈ s.checks) :
    c ∈ (load s snap).checks := List.mem_append_left _ h

/-! ### The D29 scenario at model level

The authorizer is given the check `check if mfa(true)`, the policy `deny if user("alice")`
and the fact `user("alice")`; then a snapshot holding `allow if user($u)` is loaded. The pinned
`LoadPolicies` replaces checks and policies (`loadReplacing`), so the request is accepted. -/

def cfg0 : EvalCfg := { rx := fun _ _ => none }
def lim0 : Limits := { maxFacts := 1000, maxIter := 100 }
def qHead : Pred Val := { name := strBytes "query", terms := [] }
def alice : Val := .atom (.str (strBytes "alice"))
/-- `user("alice")` -/
def fUser : DFact := { name := strBytes "user", args := [alice] }
/-- `check if mfa(true)` -/
def chkMfa : Check := { queries := [{ head := qHead, body := [{ name := strBytes "mfa", terms := [.const (.atom (.bool true))] }], exprs := [] }] }
/-- `deny if user("alice")` -/
def denyAlice : Policy := { kind := .deny, queries := [{ head := qHead, body := [{ name := strBytes "user", terms := [.const alice] }], exprs := [] }] }
/-- `allow if user($u)` -/
def allowUser : Policy := { kind := .allow, queries := [{ head := qHead, body := [{ name := strBytes "user", terms := [.var (strBytes "u")] }], exprs := [] }] }
def snapAllow : Snapshot := { facts := [], rules := [], checks := [], policies := [allowUser] }
def tokEmpty : Token := { authority := { facts := [], rules := [], checks := [] }, blocks := [] }

def sBefore : AuthState := addFact (addPolicy (addCheck (AuthState.fresh lim0) chkMfa) denyAlice) fUser
/-- The same without the check. -/
def sBeforeNoCheck : AuthState := addFact (addPolicy (AuthState.fresh lim0) denyAlice) fUser

/-- The pinned `LoadPolicies`: checks and policies of the snapshot *replace* the authorizer's. -/
def loadReplacing (s : AuthState) (snap : Snapshot) : AuthState :=
  { load s snap with checks := snap.checks, policies := snap.policies }

/-- **D29, repaired.** The check given before the load still fails the request … -/
theorem d29_check_stays :
    (authorize cfg0 tokEmpty (load sBefore snapAllow)).2 = .checksFailed [.authorizer 0] := by
  decide +kernel

/-- … and without the check the earlier `deny` still wins over the loaded `allow`. -/
theorem d29_deny_stays :
    (authorize cfg0 tokEmpty (load sBeforeNoCheck snapAllow)).2 = .denied := by
  decide +kernel

/-- In neither case is the request accepted … -/
theorem d29_not_ok :
    (authorize cfg0 tokEmpty (load sBefore snapAllow)).2 ≠ .ok ∧
    (authorize cfg0 tokEmpty (load sBeforeNoCheck snapAllow)).2 ≠ .ok := by
  rw [d29_check_stays, d29_deny_stays]
  exact ⟨nofun, nofun⟩

/-- … whereas the pinned, replacing `LoadPolicies` accepts it in both. -/
theorem d29_pinned_accepts :
    (authorize cfg0 tokEmpty (loadReplacing sBefore snapAllow)).2 = .ok ∧
    (authorize cfg0 tokEmpty (loadReplacing sBeforeNoCheck snapAllow)).2 = .ok := by
  decide +kernel

/-- The same scenario as a history (`AUTHSEQ`): `loadSnap` then `authorize`. -/
theorem d29_history :
    runSeq cfg0 false [tokEmpty] { tok := 0, auth := AuthState.fresh lim0 }
      [.addCheck chkMfa, .addPolicy denyAlice, .addFact fUser, .loadSnap snapAllow, .authorize]
      = [.none, .none, .none, .saved true, .verdict (.checksFailed [.authorizer 0])] := by
  decide +kernel

/-! ## A second `Authorize` follows the content (D28)

The state left by a first `Authorize`, `(authorize cfg tok s).1`, holds in its world the
authority scope — the authorizer's facts, the token's authority facts and everything they
entail — *and the rules* (Proofs/Content `authorize_fst_world`).

Hypotheses of the theorems below:

* `hw`  — the first authority-level run succeeds (otherwise the first call already returned a
          run error);
* `hn`  — the authorizer's fact list is duplicate-free; this holds of every state built from
          `AuthState.fresh` by `addFact`, `load` and successful evaluations (`fresh_nodup`,
          `addFact_nodup`, `load_nodup`, `authorize_fst_world`);
* `hf`  — the *reference* authorizer (the new one that is given the content and has never been
          evaluated) is inside the fragment (`WithinFragment`).

Nothing is assumed about the second run of the *used* authorizer: that it succeeds within the
same limits is part of the conclusion (`run_between_ok`: it meets only combinations the
reference run meets, stays below the fact limit and needs no more rounds). -/

theorem fresh_nodup (lim : Limits) : (AuthState.fresh lim).world.facts.Nodup := List.nodup_nil

theorem addFact_nodup (s : AuthState) (f : DFact) (h : s.world.facts.Nodup) :
    (addFact s f).world.facts.Nodup := nodup_insertFact _ _ h

theorem load_nodup (s : AuthState) (snap : Snapshot) (h : s.world.facts.Nodup) :
    (load s snap).world.facts.Nodup := nodup_insertAll _ _ h

/-- **Closure absorption** (engine level, from the `Derivable` specification): what follows
from "everything that follows from `F`, plus `G`" is what follows from "`F` plus `G`": derived
facts kept in the authorizer's world add nothing — provided the rules are kept too, so that the
new facts `G` are also reasoned from. The declarative side of D28 only: the theorems below do
not use it, they go through `run_between`, which also shows that the second run stays within
the limits. -/
theorem closure_absorb {V E : Type} [DecidableEq V] (ev : Bindings V → E → Outcome Bool)
    (P : List (Rule V E)) (F W G : List (Fact V)) (hW : ∀ g, g ∈ W ↔ Derivable ev P F g)
    (f : Fact V) : Derivable ev P (W ++ G) f ↔ Derivable ev P (F ++ G) f :=
  Biscuit.closure_absorb ev P F W G hW f

/-- **General form.** After a first `Authorize`, load any further content (`LoadPolicies`):
the second `Authorize` gives the verdict of a never-evaluated authorizer given the earlier
and the loaded content. -/
theorem authorize_after_load (cfg : EvalCfg) (tok : Token) (s : AuthState) (snap : Snapshot)
    (hw : ∃ w, runWorld cfg s.limits
      { facts := insertAll s.world.facts tok.authority.facts,
        rules := s.world.rules ++ tok.authority.rules } = (w, none))
    (hn : s.world.facts.Nodup) (hf : WithinFragment cfg tok (load s snap)) :
    (authorize cfg tok (load (authorize cfg tok s).1 snap)).2 =
      (authorize cfg tok (load s snap)).2 := by
  obtain ⟨w, hw⟩ := hw
  obtain ⟨h1, hr, hscope, hsubw, hnw⟩ := authorize_fst_world cfg tok s w hw
  rw [h1]
  apply authorize_between cfg tok (load s snap) _ hf
  · exact nodup_insertAll _ _ (hnw hn)
  · intro r
    show r ∈ (s.world.rules ++ snap.rules) ++ tok.authority.rules ↔
      r ∈ (w.rules ++ snap.rules) ++ tok.authority.rules
    rw [hr]
    simp only [List.mem_append]
    constructor
    · rintro ((h | h) | h) <;> simp [h]
    · rintro (((h | h) | h) | h) <;> simp [h]
  · intro g hg
    show g ∈ insertAll w.facts snap.facts
    have hg' : g ∈ insertAll s.world.facts snap.facts := hg
    rw [mem_insertAll] at hg' ⊢
    exact hg'.imp_left (hsubw g)
  · intro g hg
    have hg' : g ∈ insertAll w.facts snap.facts := hg
    rcases (mem_insertAll _ _ g).mp hg' with h | h
    · apply authorityScope_mono cfg tok.authority s (load s snap) _ _ g ((hscope g).mp h)
      · intro a ha
        exact (mem_insertAll _ _ a).mpr (Or.inl ha)
      · intro r hr'
        exact List.mem_append_left _ hr'
    · exact DerivableP.base (Or.inl ((mem_insertAll _ _ g).mpr (Or.inr h)))
  · rfl
  · rfl
  · rfl

/-- **D28, `AddFact`.** `AddFact` after a first `Authorize`, then `Authorize` again: the
answer is the one a new authorizer holding the same content gives. In particular the
authorizer's rules are applied to the added fact. -/
theorem authorize_after_addFact (cfg : EvalCfg) (tok : Token) (s : AuthState) (f : DFact)
    (hw : ∃ w, runWorld cfg s.limits
      { facts := insertAll s.world.facts tok.authority.facts,
        rules := s.world.rules ++ tok.authority.rules } = (w, none))
    (hn : s.world.facts.Nodup) (hf : WithinFragment cfg tok (addFact s f)) :
    (authorize cfg tok (addFact (authorize cfg tok s).1 f)).2 =
      (authorize cfg tok (addFact s f)).2 := by
  rw [addFact_eq_load] at hf ⊢
  rw [addFact_eq_load]
  exact authorize_after_load cfg tok s _ hw hn hf

/-- **D28, `AddRule`.** The same for a rule added between the two calls: the new rule is
applied to everything the authorizer holds, as in a new authorizer. -/
theorem authorize_after_addRule (cfg : EvalCfg) (tok : Token) (s : AuthState) (r : DRule)
    (hw : ∃ w, runWorld cfg s.limits
      { facts := insertAll s.world.facts tok.authority.facts,
        rules := s.world.rules ++ tok.authority.rules } = (w, none))
    (hn : s.world.facts.Nodup) (hf : WithinFragment cfg tok (addRule s r)) :
    (authorize cfg tok (addRule (authorize cfg tok s).1 r)).2 =
      (authorize cfg tok (addRule s r)).2 := by
  rw [addRule_eq_load] at hf ⊢
  rw [addRule_eq_load]
  exact authorize_after_load cfg tok s _ hw hn hf

theorem authorize_after_addCheck (cfg : EvalCfg) (tok : Token) (s : AuthState) (c : Check)
    (hw : ∃ w, runWorld cfg s.limits
      { facts := insertAll s.world.facts tok.authority.facts,
        rules := s.world.rules ++ tok.authority.rules } = (w, none))
    (hn : s.world.facts.Nodup) (hf : WithinFragment cfg tok (addCheck s c)) :
    (authorize cfg tok (addCheck (authorize cfg tok s).1 c)).2 =
      (authorize cfg tok (addCheck s c)).2 := by
  rw [addCheck_eq_load] at hf ⊢
  rw [addCheck_eq_load]
  exact authorize_after_load cfg tok s _ hw hn hf

theorem authorize_after_addPolicy (cfg : EvalCfg) (tok : Token) (s : AuthState) (p : Policy)
    (hw : ∃ w, runWorld cfg s.limits
      { facts := insertAll s.world.facts tok.authority.facts,
        rules := s.world.rules ++ tok.authority.rules } = (w, none))
    (hn : s.world.facts.Nodup) (hf : WithinFragment cfg tok (addPolicy s p)) :
    (authorize cfg tok (addPolicy (authorize cfg tok s).1 p)).2 =
      (authorize cfg tok (addPolicy s p)).2 := by
  rw [addPolicy_eq_load] at hf ⊢
  rw [addPolicy_eq_load]
  exact authorize_after_load cfg tok s _ hw hn hf

/-- The underlying statement about contents (Proofs/Content `authorize_between`): an
authorizer `u` whose world holds the content of `s` *and only consequences of it* (same rules
as a set, facts between those of `s` and the authority scope of `s`) gives the verdict of `s`. -/
theorem verdict_of_content (cfg : EvalCfg) (tok : Token) (s u : AuthState)
    (hf : WithinFragment cfg tok s) (hns : s.world.facts.Nodup) (hnu : u.world.facts.Nodup)
    (hR : ∀ r, r ∈ s.world.rules ++ tok.authority.rules ↔ r ∈ u.world.rules ++ tok.authority.rules)
    (hsub : ∀ g ∈ s.world.facts, g ∈ u.world.facts)
    (hsup : ∀ g ∈ u.world.facts, authorityScope cfg tok.authority s g)
    (hc : s.checks = u.checks) (hp : s.policies = u.policies) (hl : s.limits = u.limits) :
    (authorize cfg tok u).2 = (authorize cfg tok s).2 := by
  have _ := hns  -- kept in the statement; not needed by the proof
  exact authorize_between cfg tok s u hf hnu hR hsub hsup hc hp hl

/-! ### The D28 scenario at model level

The authorizer holds the rule `blocked($u) <- user($u), banned($u)` and the policies
`deny if blocked($u)`, `allow if user($u)`; the token says `user("alice")`. The first
`Authorize` accepts. Then `banned("alice")` is added and `Authorize` is called again. -/

def vU : Term Val := .var (strBytes "u")
/-- `banned("alice")` -/
def fBanned : DFact := { name := strBytes "banned", args := [alice] }
/-- `blocked($u) <- user($u), banned($u)` -/
def rBlocked : DRule := { head := { name := strBytes "blocked", terms := [vU] }, body := [{ name := strBytes "user", terms := [vU] }, { name := strBytes "banned", terms := [vU] }], exprs := [] }
/-- `deny if blocked($u)` -/
def denyBlocked : Policy := { kind := .deny, queries := [{ head := qHead, body := [{ name := strBytes "blocked", terms := [vU] }], exprs := [] }] }
def tokAlice : Token := { authority := { facts := [fUser], rules := [], checks := [] }, blocks := [] }
def sBan : AuthState :=
  addPolicy (addPolicy (addRule (AuthState.fresh lim0) rBlocked) denyBlocked) allowUser

/-- The pinned `Authorize`: as the repaired one, then the authorizer's rule set is emptied
(the world kept by the authorizer is the rule-less clone handed to the blocks). -/
def authorizePinnedRules (cfg : EvalCfg) (tok : Token) (s : AuthState) : AuthState × Verdict :=
  let r := authorize cfg tok s
  ({ r.1 with world := { r.1.world with rules := [] } }, r.2)

/-- **D28, pinned.** The second `Authorize` accepts a request that a new authorizer holding
the same content (rule, policies, `banned("alice")`) denies: the rule that turns `banned`
into `blocked` is lost in the first call. -/
theorem second_authorize_pinned :
    (authorizePinnedRules cfg0 tokAlice sBan).2 = .ok ∧
    (authorize cfg0 tokAlice (addFact (authorizePinnedRules cfg0 tokAlice sBan).1 fBanned)).2 = .ok ∧
    (authorize cfg0 tokAlice (addFact sBan fBanned)).2 = .denied := by
  decide +kernel

/-- **D28, repaired.** The second `Authorize` denies, as the new authorizer does. -/
theorem second_authorize_repaired :
    (authorize cfg0 tokAlice sBan).2 = .ok ∧
    (authorize cfg0 tokAlice (addFact (authorize cfg0 tokAlice sBan).1 fBanned)).2 = .denied ∧
    (authorize cfg0 tokAlice (addFact sBan fBanned)).2 = .denied := by
  decide +kernel

/-- The same as a history (`AUTHSEQ`). -/
theorem d28_history :
    runSeq cfg0 false [tokAlice] { tok := 0, auth := sBan } [.authorize, .addFact fBanned, .authorize]
      = [.verdict .ok, .none, .verdict .denied] := by
  decide +kernel

/-- Non-vacuity: the scenario satisfies the hypotheses of `authorize_after_addFact` (first
run succeeds, duplicate-free world, reference authorizer inside the fragment) … -/
theorem d28_hypotheses :
    (∃ w, runWorld cfg0 sBan.limits
      { facts := insertAll sBan.world.facts tokAlice.authority.facts,
        rules := sBan.world.rules ++ tokAlice.authority.rules } = (w, none)) ∧
    sBan.world.facts.Nodup ∧ WithinFragment cfg0 tokAlice (addFact sBan fBanned) := by
  refine ⟨⟨_, Prod.ext rfl (by decide +kernel)⟩, List.nodup_nil, ?_⟩
  exact withinFragment_of_test _ _ _ (by decide +kernel)

/-- … so the second verdict is an instance of the theorem, not only of evaluation. -/
theorem d28_instance :
    (authorize cfg0 tokAlice (addFact (authorize cfg0 tokAlice sBan).1 fBanned)).2 =
      (authorize cfg0 tokAlice (addFact sBan fBanned)).2 :=
  authorize_after_addFact cfg0 tokAlice sBan fBanned d28_hypotheses.1 d28_hypotheses.2.1
    d28_hypotheses.2.2

/-- Non-vacuity for `authorize_after_addRule`: the rule arrives after the first call (the
fact `banned("alice")` was there from the start) and is applied all the same. -/
def sBan' : AuthState :=
  addFact (addPolicy (addPolicy (AuthState.fresh lim0) denyBlocked) allowUser) fBanned

theorem d28_rule_instance :
    (authorize cfg0 tokAlice sBan').2 = .ok ∧
    (authorize cfg0 tokAlice (addRule (authorize cfg0 tokAlice sBan').1 rBlocked)).2 = .denied ∧
    (authorize cfg0 tokAlice (addRule sBan' rBlocked)).2 = .denied := by
  decide +kernel

theorem d28_rule_hypotheses :
    (∃ w, runWorld cfg0 sBan'.limits
      { facts := insertAll sBan'.world.facts tokAlice.authority.facts,
        rules := sBan'.world.rules ++ tokAlice.authority.rules } = (w, none)) ∧
    sBan'.world.facts.Nodup ∧ WithinFragment cfg0 tokAlice (addRule sBan' rBlocked) := by
  refine ⟨⟨_, Prod.ext rfl (by decide +kernel)⟩, by decide +kernel, ?_⟩
  exact withinFragment_of_test _ _ _ (by decide +kernel)

#print axioms insertAll_eq_foldl_insertFact
#print axioms load_eq_addAll
#print axioms authorize_load_eq_addAll
#print axioms query_load_eq_addAll
#print axioms runSeq_load_eq_addAll
#print axioms load_checks
#print axioms load_policies
#print axioms load_world
#print axioms load_keeps_check
#print axioms d29_check_stays
#print axioms d29_deny_stays
#print axioms d29_not_ok
#print axioms d29_pinned_accepts
#print axioms d29_history
#print axioms fresh_nodup
#print axioms addFact_nodup
#print axioms load_nodup
#print axioms closure_absorb
#print axioms authorize_after_load
#print axioms authorize_after_addFact
#print axioms authorize_after_addRule
#print axioms authorize_after_addCheck
#print axioms authorize_after_addPolicy
#print axioms verdict_of_content
#print axioms second_authorize_pinned
#print axioms second_authorize_repaired
#print axioms d28_history
#print axioms d28_hypotheses
#print axioms d28_instance
#print axioms d28_rule_instance
#print axioms d28_rule_hypotheses
#print axioms Biscuit.run_between
#print axioms Biscuit.run_between_ok
#print axioms Biscuit.authorize_between
#print axioms Biscuit.withinFragment_of_test

end Biscuit.C04Content
