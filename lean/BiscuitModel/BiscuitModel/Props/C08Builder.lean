/-
Props/C08Builder — a built token does not change when its builder is used again (D20).
-/
import BiscuitModel.Model.BuilderAlias

namespace Biscuit.C08Builder
open Biscuit.BuilderAlias

variable {α : Type} [DecidableEq α]

theorem addFact_length (st : Store α) (b : Builder) (x : α) : (addFact st b x).length = st.length := by
  unfold addFact
  split
  · rfl
  · simp

theorem addFact_other_cell (st : Store α) (b : Builder) (x : α) (i : Nat) (h : i ≠ b.facts) :
    cell (addFact st b x) i = cell st i := by
  unfold addFact
  split
  · rfl
  · simp only [cell, List.getD_eq_getElem?_getD]
    rw [List.getElem?_set_ne (Ne.symm h)]

theorem foldl_addFact_frame (b : Builder) (xs : List α) (st : Store α) :
    (xs.foldl (fun s x => addFact s b x) st).length = st.length ∧
    ∀ i, i ≠ b.facts → cell (xs.foldl (fun s x => addFact s b x) st) i = cell st i := by
  induction xs generalizing st with
  | nil => exact ⟨rfl, fun _ _ => rfl⟩
  | cons x xs ih =>
    have r := ih (addFact st b x)
    exact ⟨r.1.trans (addFact_length st b x), fun i hi => (r.2 i hi).trans (addFact_other_cell st b x i hi)⟩

omit [DecidableEq α] in
theorem cell_append_length (st : Store α) (c : List α) : cell (st ++ [c]) st.length = c := by
  simp [cell]

/-- **Fixed `Build`: frame.** Whatever is added to the builder after `Build`, in any
number of steps, the token reads what it read when it was built. -/
theorem buildCopy_frame (st : Store α) (b : Builder) (hv : Valid st b) (xs : List α) :
    view (xs.foldl (fun s x => addFact s b x) (buildCopy st b).1) (buildCopy st b).2 =
    cell st b.facts :=
  ((foldl_addFact_frame b xs _).2 st.length (Nat.ne_of_gt hv)).trans (cell_append_length st _)

/-- A second `Build` on the same builder carries everything put into the builder so far,
and the first token still reads what it read. -/
theorem buildCopy_twice (st : Store α) (b : Builder) (hv : Valid st b) (xs : List α) :
    let s1 := (buildCopy st b).1
    let t1 := (buildCopy st b).2
    let s2 := xs.foldl (fun s x => addFact s b x) s1
    let r := buildCopy s2 b
    view r.1 r.2 = cell s2 b.facts ∧ view r.1 t1 = cell st b.facts := by
  intro s1 t1 s2 r
  have hlen : st.length < s2.length := by
    rw [(foldl_addFact_frame b xs s1).1]; simp [s1, buildCopy]
  refine ⟨cell_append_length s2 _, Eq.trans ?_ (buildCopy_frame st b hv xs)⟩
  show (s2 ++ [cell s2 b.facts]).getD st.length [] = s2.getD st.length []
  simp only [List.getD_eq_getElem?_getD, List.getElem?_append_left hlen]

/-- **Unfixed `Build`: the token changes.** One `AddAuthorityFact` after `Build` and the token
that was already built has a new fact. -/
theorem buildShared_changes :
    let st : Store Nat := [[1]]
    let b : Builder := { facts := 0 }
    let r := buildShared st b
    view r.1 r.2 = [1] ∧ view (addFact r.1 b 2) r.2 = [1, 2] := by
  decide

/-- Same scenario with the repaired `Build`. -/
example :
    let st : Store Nat := [[1]]
    let b : Builder := { facts := 0 }
    let r := buildCopy st b
    view r.1 r.2 = [1] ∧ view (addFact r.1 b 2) r.2 = [1] := by
  decide

end Biscuit.C08Builder
