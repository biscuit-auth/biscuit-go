/-
Props/C20 — entropy failure is reported, never a panic or a degenerate key.

The random source is a script of what successive `Read` calls deliver
(`Model/Token.Rng`). `ed25519.GenerateKey` reads exactly 32 bytes with `io.ReadFull`
(Go 1.23 source) — recorded in the trusted base.
-/
import BiscuitModel.Proofs.Token

namespace Biscuit.C20
open Biscuit Biscuit.Wire

/-- **Failure is reported.** A source that fails or runs dry after delivering fewer than
32 bytes — in any chunking, with the error arriving together with or after the last
bytes — makes the seed draw fail … -/
theorem short_source_fails (rng : Rng) (h : delivered rng < 32) : drawSeed rng = none :=
  readFull_short 32 rng [] h

/-- … and then building returns the entropy error: no token, no panic. -/
theorem build_reports_entropy_failure (S : SigScheme) (rootSeed : Bytes) (id : Option Nat) (block : Bytes)
    (rng : Rng) (h : delivered rng < 32) : buildEnvelope S rootSeed id block rng = .error .entropy := by
  simp [buildEnvelope, short_source_fails rng h]

theorem append_reports_entropy_failure (S : SigScheme) (e : BiscuitMsg) (sk : Bytes) (hp : e.proof = .nextSecret sk)
    (hl : sk.length = 32) (block : Bytes) (rng : Rng) (h : delivered rng < 32) :
    appendEnvelope S e block rng = .error .entropy := by
  simp [appendEnvelope, appendEnvelopeWith, hp, hl, short_source_fails rng h]

theorem enough_source_succeeds (rng : Rng) (h : delivered rng ≥ 32) :
    ∃ rng', drawSeed rng = some ((firstBytes rng).take 32, rng') := by
  obtain ⟨rng', h'⟩ := readFull_enough 32 rng [] h
  exact ⟨rng', by simpa [drawSeed] using h'⟩

/-- **Key from delivered bytes.** Whenever a token is returned, its next secret is the 32
bytes the source actually delivered and the announced next key is derived from them. -/
theorem build_key_from_delivered (S : SigScheme) (rootSeed : Bytes) (id : Option Nat) (block : Bytes)
    (rng rng' : Rng) (e : BiscuitMsg) (h : buildEnvelope S rootSeed id block rng = .ok (e, rng')) :
    e.proof = .nextSecret ((firstBytes rng).take 32) ∧
    e.authority.nextKey.key = S.pub ((firstBytes rng).take 32) ∧
    ((firstBytes rng).take 32).length = 32 := by
  obtain ⟨seed, hd, rfl⟩ := buildEnvelope_ok S rootSeed id block rng rng' e h
  obtain ⟨rfl, hl⟩ := drawSeed_some rng rng' seed hd
  exact ⟨rfl, rfl, hl⟩

theorem append_key_from_delivered (S : SigScheme) (e e' : BiscuitMsg) (block : Bytes) (rng rng' : Rng)
    (h : appendEnvelope S e block rng = .ok (e', rng')) :
    e'.proof = .nextSecret ((firstBytes rng).take 32) ∧
    (∃ sb, e'.blocks = e.blocks ++ [sb] ∧ sb.nextKey.key = S.pub ((firstBytes rng).take 32)) := by
  obtain ⟨sk, seed, _, _, hd, rfl⟩ := appendEnvelopeWith_ok true S e block rng rng' e' h
  obtain ⟨rfl, _⟩ := drawSeed_some rng rng' seed hd
  exact ⟨rfl, _, rfl, rfl⟩

/-! Sealing draws no randomness at all: `sealEnvelope` does not take a random source. -/

/-- Exactly 32 bytes are consumed per operation: what remains of a chunked script. -/
theorem draw_consumes_32 (b : Bytes) (rest : Rng) (h : b.length ≥ 32) :
    drawSeed (.chunk b :: rest) = some (b.take 32, .chunk (b.drop 32) :: rest) := by
  simp [drawSeed, readFull, h]

/-- D14, pinned: the two `GenerateKey` call sites (biscuit.go:86, 180) discard the error, so a
short source yields a nil key whose `Seed()` panics. The pinned outcome as a function of the script: -/
def pinnedBuildOutcome (rng : Rng) : Outcome Unit :=
  match drawSeed rng with
  | none => .panic .nilKeySeed
  | some _ => .ok ()

theorem pinned_short_source_panics : pinnedBuildOutcome [.chunk [1, 2, 3, 4, 5]] = .panic .nilKeySeed := by
  rfl

/-! Non-vacuity: 32 bytes delivered in three chunks, the last together with an error. -/
example : drawSeed [.chunk (List.replicate 10 7), .chunk [], .chunk (List.replicate 12 8), .chunkErr (List.replicate 10 9)]
    = some (List.replicate 10 7 ++ List.replicate 12 8 ++ List.replicate 10 9, [.fail]) := by decide
example : drawSeed [.chunk (List.replicate 31 7), .fail] = none := by decide

/-- One attenuation step that returns a token was given a source delivering at least 32 bytes. -/
theorem derive_append_ok_source_enough (S : SigScheme) (e e' : BiscuitMsg) (block : Bytes) (rng : Rng)
    (h : derive true S e (.append block rng) = .ok e') : delivered rng ≥ 32 := by
  obtain ⟨rng', ha⟩ := derive_append_ok_iff.1 h
  obtain ⟨_, seed, _, _, hd, _⟩ := appendEnvelopeWith_ok true S e block rng rng' e' ha
  apply Nat.le_of_not_lt
  intro hlt
  rw [short_source_fails rng hlt] at hd
  cases hd

/-- **C20 along histories.** A derivation history (appends with their own sources, seals,
reloads) returns a token only if *every* attenuation in it was given a source that delivered
at least 32 bytes: one source running dry anywhere in the history and no token comes out. -/
theorem history_ok_all_sources_enough (S : SigScheme) (e0 e : BiscuitMsg) (ops : List DeriveOp)
    (h : deriveAll true S e0 ops = .ok e) (block : Bytes) (rng : Rng)
    (hm : DeriveOp.append block rng ∈ ops) : delivered rng ≥ 32 := by
  obtain ⟨e1, e2, hd⟩ := deriveAll_ok_mem h hm
  exact derive_append_ok_source_enough S e1 e2 block rng hd

/-- Contrapositive, as the property states it: a short source anywhere makes the history fail. -/
theorem history_short_source_fails (S : SigScheme) (e0 : BiscuitMsg) (ops : List DeriveOp)
    (block : Bytes) (rng : Rng) (hm : DeriveOp.append block rng ∈ ops) (hs : delivered rng < 32) :
    ∃ r, deriveAll true S e0 ops = .error r := by
  cases h : deriveAll true S e0 ops with
  | error r => exact ⟨r, rfl⟩
  | ok e => exact absurd (history_ok_all_sources_enough S e0 e ops h block rng hm) (Nat.not_le.2 hs)

end Biscuit.C20
