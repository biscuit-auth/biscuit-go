/-
Props/C14Lexer — character-level round trip of the lexer: spelling a token list
(`Model/Spell`, every token followed by one space) and lexing it gives the token list back.
This is the one-space instance of the round trip over layouts (`Props/C14Layout.lex_spellWith`).

`tokWF` (`Proofs/Lexer`) describes exactly the tokens whose spelling, followed by a space and ANY
further input, is read back by `lexOne` as the same token (`tokWF_exact`).  The lexer takes the FIRST
matching rule (not the longest match), so the predicate has to exclude every spelling that an earlier
rule claims; see the comments at `tokWF` and the negative examples at the end.
-/
import BiscuitModel.Props.C14Layout

namespace Biscuit.C14Lexer
open Biscuit Biscuit.Grammar

/-- **Round trip**: lexing the spelling of well-formed tokens gives the tokens back. -/
theorem lex_spell (ts : List Tok) (h : ∀ t ∈ ts, TokWF t) : lex (spell ts) = some ts :=
  C14Layout.lex_spell_corollary ts h

theorem parseBlockText_spell (ts : List Tok) (h : ∀ t ∈ ts, TokWF t) :
    parseBlockText (spell ts) = parseItems (fuelFor ts) false ts := by
  simp [parseBlockText, lex_spell ts h]

theorem parseAuthorizerText_spell (ts : List Tok) (h : ∀ t ∈ ts, TokWF t) :
    parseAuthorizerText (spell ts) = parseItems (fuelFor ts) true ts := by
  simp [parseAuthorizerText, lex_spell ts h]

theorem parseSingleText_spell (ts : List Tok) (h : ∀ t ∈ ts, TokWF t) :
    parseSingleText (spell ts) =
      match parseItem (fuelFor ts) true ts with
      | some (it, []) => some it
      | _ => none := by
  simp only [parseSingleText, lex_spell ts h, Option.bind_some]
  rfl

/-! `TokWF` is exact only because the input after the space is arbitrary: with nothing after it,
`check`, `allow`, `deny` as identifiers and `"` as punctuation would also read back; they are
excluded because of the continuations `check if…` and `" "`. -/

theorem tokWF_of_lexOne (t : Tok)
    (H : ∀ rest, lexOne (spellTok t ++ ' ' :: rest) = some (some t, ' ' :: rest)) : TokWF t := by
  unfold TokWF
  have inv := lexOne_inv (H [])
  cases t with
  -- what the rule guarantees of its token is what `tokWF` asks
  | keyword _ | func _ | hex _ | op _ | str _ | int _ => simpa [tokWF, TokInv] using inv
  | var _ | param _ => simpa [tokWF, nameOK, TokInv] using inv
  | dot | arrow | orOp | andOp | bool _ => rfl
  | comment => exact absurd (H []) (by rw [lexOne_eq]; decide +kernel)
  | date s =>
    have h : lexDate (s ++ [' ']) = some (s, [' ']) := inv
    rw [lexDate_stop s _ rfl, Option.map_eq_some_iff] at h
    obtain ⟨⟨d, r⟩, hd, e⟩ := h
    obtain ⟨rfl, hr⟩ := Prod.mk.inj e
    obtain rfl := List.append_left_eq_self.1 hr
    simp [tokWF, hd]
  | ident s =>
    obtain ⟨c, rest, -, hl, hs, h2, h3, h4⟩ := inv
    have hst : s.toList = c :: (spanWhile isNameChar rest).1 := by rw [hs, String.toList_ofList]
    -- a rule that fails on the name followed by a space fails on the name
    have e2 : firstWordC fnC s.toList = none := Option.map_eq_none_iff.1
      ((firstWordC_stop isNameChar fnC s.toList [' '] (by decide) rfl rfl).symm.trans h2)
    have e3 : stripLit ['h','e','x',':'] s.toList = none := Option.map_eq_none_iff.1
      ((stripLit_stop isNameChar ['h','e','x',':'] s.toList [' '] (by decide) rfl).symm.trans h3)
    have e4 : firstWordC boolC s.toList = none := Option.map_eq_none_iff.1
      ((firstWordC_stop isNameChar boolC s.toList [' '] (by decide) rfl rfl).symm.trans h4)
    have hk : s.toList ∉ keywordHeads := by
      intro hk
      -- in front of `if` the Keyword rule takes the space as well
      have kw : ∀ w ∈ keywordHeads, (lexOne (w ++ ' ' :: ['i', 'f'])).map (·.2) = some [] := by
        simp only [lexOne_eq]
        decide +kernel
      have H' := congrArg (Option.map (·.2)) (H ['i', 'f'])
      rw [show spellTok (.ident s) = s.toList from rfl, kw _ hk] at H'
      cases H'
    rw [hst] at e2 e3 e4 hk
    rw [tokWF, hst]
    exact (identOK_cons _ _).2 ⟨hl, spanWhile_fst_all _ _, hk, e2, e3, e4⟩
  | punct c =>
    have hc : c ∈ punctChars := inv
    -- the other punctuation characters belong to Operator and Dot, and `"` to String when a second `"` follows
    have claimed : ∀ c ∈ ['-', '*', '+', '<', '>', '.'], lexOne [c, ' '] ≠ some (some (.punct c), [' ']) := by
      simp only [lexOne_eq]
      decide +kernel
    have quote : lexOne ['"', ' ', '"'] ≠ some (some (.punct '"'), [' ', '"']) := by
      rw [lexOne_eq]
      decide +kernel
    have split : ∀ c ∈ punctChars, c ∈ wfPunct ∨ c ∈ ['-', '*', '+', '<', '>', '.'] ∨ c = '"' := by decide +kernel
    rcases split c hc with h | h | rfl
    · simpa [tokWF] using h
    · exact absurd (H []) (claimed c h)
    · exact absurd (H ['"']) quote

theorem tokWF_exact (t : Tok) :
    TokWF t ↔ ∀ rest, lexOne (spellTok t ++ ' ' :: rest) = some (some t, ' ' :: rest) :=
  ⟨fun h rest => C14Layout.lexOne_spell_ok t h _
      (C14Layout.okAfter_blank t (by rintro rfl; exact absurd h (by decide)) ' ' rest rfl),
    tokWF_of_lexOne t⟩

/-! Every constructor has well-formed instances. -/
example : TokWF (.keyword "check if") := by decide +kernel
example : TokWF (.keyword "deny if") := by decide +kernel
example : TokWF (.func "length") := by decide +kernel
example : TokWF (.hex "0aFF".toList) := by decide +kernel
example : TokWF (.hex []) := by decide +kernel
example : TokWF .dot := by decide +kernel
example : TokWF .arrow := by decide +kernel
example : TokWF .orOp := by decide +kernel
example : TokWF .andOp := by decide +kernel
example : TokWF (.op "<=") := by decide +kernel
example : TokWF (.op "-") := by decide +kernel
example : TokWF (.str "a b\nc".toList) := by decide +kernel
example : TokWF (.var "x_1:y") := by decide +kernel
example : TokWF (.var "0") := by decide +kernel
example : TokWF (.param "name") := by decide +kernel
example : TokWF (.date "2020-01-01T00:00:00".toList) := by decide +kernel
example : TokWF (.date "2020-01-01T00:00:00Z".toList) := by decide +kernel
example : TokWF (.date "2020-01-01T00:00:00.125+02:00".toList) := by decide +kernel
example : TokWF (.int "2020".toList) := by decide +kernel
example : TokWF (.int "007".toList) := by decide +kernel
example : TokWF (.bool true) := by decide +kernel
example : TokWF (.bool false) := by decide +kernel
example : TokWF (.ident "resource") := by decide +kernel
example : TokWF (.ident "lengthy") := by decide +kernel
example : TokWF (.ident "length_x") := by decide +kernel
example : TokWF (.ident "prefix_x") := by decide +kernel
example : TokWF (.ident "truex") := by decide +kernel
example : TokWF (.ident "hexa") := by decide +kernel
example : TokWF (.ident "checker") := by decide +kernel
example : TokWF (.ident "check_if") := by decide +kernel
example : TokWF (.ident "a:b") := by decide +kernel
example : ∀ c ∈ "[!@%^&#$()_={}|:;',?/]".toList, TokWF (.punct c) := by decide +kernel

/-! Tokens that are not well-formed, by constructor. -/
example : ¬ TokWF (.keyword "check") := by decide +kernel
example : ¬ TokWF (.func "size") := by decide +kernel
example : ¬ TokWF (.hex "0".toList) := by decide +kernel
example : ¬ TokWF (.hex "0g".toList) := by decide +kernel
example : ¬ TokWF (.op "!=") := by decide +kernel
example : ¬ TokWF (.op "=") := by decide +kernel
example : ¬ TokWF .comment := by decide +kernel
example : ¬ TokWF (.str "a\"b".toList) := by decide +kernel
example : ¬ TokWF (.var "") := by decide +kernel
example : ¬ TokWF (.var "a-b") := by decide +kernel
example : ¬ TokWF (.param "") := by decide +kernel
example : ¬ TokWF (.date "2020-01-01".toList) := by decide +kernel
example : ¬ TokWF (.date "2020-01-01T00:00:00.".toList) := by decide +kernel
example : ¬ TokWF (.date "2020-01-01T00:00:00+02".toList) := by decide +kernel
example : ¬ TokWF (.int []) := by decide +kernel
example : ¬ TokWF (.int "-1".toList) := by decide +kernel
example : ¬ TokWF (.ident "") := by decide +kernel
example : ¬ TokWF (.ident "Abc") := by decide +kernel
example : ¬ TokWF (.ident "length") := by decide +kernel
example : ¬ TokWF (.ident "length:x") := by decide +kernel
example : ¬ TokWF (.ident "true") := by decide +kernel
example : ¬ TokWF (.ident "false:x") := by decide +kernel
example : ¬ TokWF (.ident "hex:ab") := by decide +kernel
example : ¬ TokWF (.ident "check") := by decide +kernel
example : ∀ c ∈ "-*+<>.\"".toList, ¬ TokWF (.punct c) := by decide +kernel
example : ¬ TokWF (.punct 'a') := by decide +kernel
example : ¬ TokWF (.punct ' ') := by decide +kernel

/-! Why the exclusions are necessary: what the lexer does with those spellings. -/
example : lex "length:x ".toList = some [.func "length", .punct ':', .ident "x"] :=
  lex_lit (by decide +kernel)
example : lex "length ".toList = some [.func "length"] := lex_lit (by decide +kernel)
example : lex "lengthy ".toList = some [.ident "lengthy"] := lex_lit (by decide +kernel)
example : lex "truex ".toList = some [.ident "truex"] := lex_lit (by decide +kernel)
example : lex "true ".toList = some [.bool true] := lex_lit (by decide +kernel)
example : lex "true:x ".toList = some [.bool true, .punct ':', .ident "x"] := lex_lit (by decide +kernel)
example : lex "hex:0 ".toList = some [.hex [], .int ['0']] := lex_lit (by decide +kernel)
example : lex "hex:ab ".toList = some [.hex ['a', 'b']] := lex_lit (by decide +kernel)
example : lex "- 1 ".toList = some [.op "-", .int ['1']] := lex_lit (by decide +kernel)
example : lex "= ".toList = some [.punct '='] := lex_lit (by decide +kernel)
example : lex "& | / ".toList = some [.punct '&', .punct '|', .punct '/'] := lex_lit (by decide +kernel)
example : lex "$ { ".toList = some [.punct '$', .punct '{'] := lex_lit (by decide +kernel)
example : lex ". ".toList = some [.dot] := lex_lit (by decide +kernel)
example : lex "2020-01-01T00:00:00 ".toList = some [.date "2020-01-01T00:00:00".toList] :=
  lex_lit (by decide +kernel)
example : lex "2020-01-01T00:00:00. ".toList = some [.date "2020-01-01T00:00:00".toList, .dot] :=
  lex_lit (by decide +kernel)
example : lex "2020 -01 ".toList = some [.int "2020".toList, .op "-", .int "01".toList] :=
  lex_lit (by decide +kernel)
/-- An identifier `check` alone reads back, but not in front of `if…`: the Keyword rule has no
word boundary and its literal contains the space. -/
example : lex (spell [.ident "check"]) = some [.ident "check"] := by rw [lex_eq]; decide +kernel
example : lex (spell [.ident "check", .ident "if"]) = some [.keyword "check if"] := by
  rw [lex_eq]; decide +kernel
example : lex (spell [.ident "check", .ident "ifx"]) = some [.keyword "check if", .ident "x"] := by
  rw [lex_eq]; decide +kernel
/-- A lone `"` is punctuation only as long as no second `"` follows. -/
example : lex (spell [.punct '"']) = some [.punct '"'] := by rw [lex_eq]; decide +kernel
example : lex (spell [.punct '"', .punct '"']) = some [.str [' ']] := by rw [lex_eq]; decide +kernel
/-- A comment swallows the rest of the line. -/
example : lex (spell [.comment, .ident "x"]) = some [.comment] := by rw [lex_eq]; decide +kernel

/-! The round trip on a concrete list (an instance of `lex_spell`, checked by evaluation). -/
example :
    lex (spell [.keyword "check if", .ident "resource", .punct '(', .var "x", .punct ')', .punct ',',
      .var "x", .dot, .func "length", .punct '(', .punct ')', .op "<=", .int ['7'], .punct ';']) =
    some [.keyword "check if", .ident "resource", .punct '(', .var "x", .punct ')', .punct ',',
      .var "x", .dot, .func "length", .punct '(', .punct ')', .op "<=", .int ['7'], .punct ';'] := by
  rw [lex_eq]; decide +kernel

end Biscuit.C14Lexer
