/-
Props/C03 — block scoping: a later block's facts and rules reach only its own checks.

Value level: worlds are values. (That the code's header-copy `World.Clone` is
observationally a value copy for the access pattern of `Authorize` is the heap
statement `clone_header_copy_refines_value_copy` in Props/C03Heap.)
-/
import BiscuitModel.Proofs.Authorizer

namespace Biscuit.C03
open Biscuit

/-- The authorizer state left by `Authorize` — hence every later `Query` — does not
depend on the later blocks at all: not on their facts, rules, checks, number or order. -/
theorem state_indep_of_blocks (cfg : EvalCfg) (A : Block) (bs bs' : List Block) (s : AuthState) :
    (authorize cfg ⟨A, bs⟩ s).1 = (authorize cfg ⟨A, bs'⟩ s).1 := by
  rw [authorize_fst, authorize_fst]

/-- Queries issued after `Authorize` see the authority-level world only. -/
theorem query_indep_of_blocks (cfg : EvalCfg) (A : Block) (bs bs' : List Block) (s : AuthState)
    (q : DRule) :
    query cfg (authorize cfg ⟨A, bs⟩ s).1 q = query cfg (authorize cfg ⟨A, bs'⟩ s).1 q := by
  rw [state_indep_of_blocks cfg A bs bs' s]

/-- One result per later block (run error, or its failed checks), each computed by `evalBlock`
from the authority-level facts and that block alone. -/
def blockResults (cfg : EvalCfg) (lim : Limits) (base : List DFact) : List Block → Nat → List (Except RunErr (List CheckId))
  | [], _ => []
  | b :: bs, idx => evalBlock cfg lim base b idx :: blockResults cfg lim base bs (idx + 1)

/-- Assembling the verdict from the authority phase and the per-block results:
first run error in block order, else all failures in order, else the policy. -/
def assemble (ap : AuthorityPhase) : List (Except RunErr (List CheckId)) → List CheckId → Verdict
  | [], acc => if !acc.isEmpty then .checksFailed acc else policyVerdict ap.policy
  | .error e :: _, _ => .runError e
  | .ok failed :: rest, acc => assemble ap rest (acc ++ failed)

/-- **Decomposition.** The verdict is assembled from (i) the authority phase, which
does not mention the later blocks, and (ii) one independent result per block. -/
theorem verdict_decomposition (cfg : EvalCfg) (tok : Token) (s : AuthState) (w : World)
    (ap : AuthorityPhase) (h : authorityPhase cfg tok.authority s = (w, .ok ap)) :
    (authorize cfg tok s).2 =
      assemble ap (blockResults cfg s.limits w.facts tok.blocks 1) ap.failed := by
  have key : ∀ (bs : List Block) (idx : Nat) (acc : List CheckId),
      finish ap.policy (blockPhase cfg s.limits w.facts bs idx acc) =
        assemble ap (blockResults cfg s.limits w.facts bs idx) acc := by
    intro bs
    induction bs with
    | nil => intro idx acc; rfl
    | cons b bs ih =>
      intro idx acc
      simp only [blockPhase, blockResults]
      cases evalBlock cfg s.limits w.facts b idx with
      | error e => rfl
      | ok failed => exact ih (idx + 1) (acc ++ failed)
  rw [authorize, authorizeWith_snd, h]
  exact key _ _ _

/-- **C03.** Replacing the block at position `pre.length` (its facts and rules, or all of it)
leaves the result of every other block unchanged … -/
theorem other_blocks_unaffected (cfg : EvalCfg) (lim : Limits) (base : List DFact)
    (pre post : List Block) (b b' : Block) (start : Nat) (j : Nat) (hj : j ≠ pre.length) :
    (blockResults cfg lim base (pre ++ b :: post) start)[j]? =
    (blockResults cfg lim base (pre ++ b' :: post) start)[j]? := by
  induction pre generalizing start j with
  | nil =>
    cases j with
    | zero => exact absurd rfl hj
    | succ j => simp only [List.nil_append, blockResults, List.getElem?_cons_succ]
  | cons p pre ih =>
    cases j with
    | zero => simp only [List.cons_append, blockResults, List.getElem?_cons_zero]
    | succ j =>
      simp only [List.cons_append, blockResults, List.getElem?_cons_succ]
      exact ih (start + 1) j (fun hj' => hj (by simp only [List.length_cons, hj']))

/-- … and, when both variants end in failed checks, the failed checks that do not belong to
that block are the same. -/
theorem failed_ids_other_blocks (cfg : EvalCfg) (A : Block) (pre post : List Block) (b b' : Block)
    (s : AuthState) (ids ids' : List CheckId)
    (h : (authorize cfg ⟨A, pre ++ b :: post⟩ s).2 = .checksFailed ids)
    (h' : (authorize cfg ⟨A, pre ++ b' :: post⟩ s).2 = .checksFailed ids') :
    ids.filter (fun i => match i with | .block k _ => k ≠ pre.length + 1 | _ => true) =
    ids'.filter (fun i => match i with | .block k _ => k ≠ pre.length + 1 | _ => true) := by
  rw [authorize, authorizeWith_snd] at h h'
  dsimp only at h h'
  generalize authorityPhase cfg A s = x at h h'
  rcases x with ⟨w, e | ap⟩
  · cases h
  · obtain ⟨a, fb, t, h1, h2, h3, rfl⟩ := blockPhase_mid cfg (h := finish_eq_checksFailed _ _ _ h)
    obtain ⟨a', fb', t', h1', h2', h3', rfl⟩ := blockPhase_mid cfg (h := finish_eq_checksFailed _ _ _ h')
    rw [h1] at h1'
    rw [h3] at h3'
    cases h1'
    cases h3'
    have hnil : ∀ (l : List CheckId), (∀ x ∈ l, ∃ c, x = CheckId.block (1 + pre.length) c) →
        l.filter (fun i => match i with | .block k _ => k ≠ pre.length + 1 | _ => true) = [] := by
      intro l hl
      rw [List.filter_eq_nil_iff]
      intro x hx
      obtain ⟨c, rfl⟩ := hl x hx
      exact fun h => of_decide_eq_true h (Nat.add_comm 1 pre.length)
    simp only [List.filter_append, hnil fb (evalBlock_ok_forall cfg _ _ _ _ _ h2),
      hnil fb' (evalBlock_ok_forall cfg _ _ _ _ _ h2')]

/-- Renumber the checks of blocks after position `k` down by one (the block at `k` removed). -/
def dropBlockId (k : Nat) : CheckId → CheckId
  | .block b c => if b > k then .block (b - 1) c else .block b c
  | i => i

def dropBlockVerdict (k : Nat) : Verdict → Verdict
  | .checksFailed ids => .checksFailed (ids.map (dropBlockId k))
  | v => v

/-- A block without checks whose own evaluation completes is inert: removing it gives
the same verdict (failed-check ids of later blocks renumbered). This is the
observation the property anchors: outcome compared between `T` and `T` plus
check-free blocks. -/
theorem checkfree_block_is_inert (cfg : EvalCfg) (A : Block) (pre post : List Block) (b : Block)
    (s : AuthState) (hb : b.checks = []) (w : World) (ap : AuthorityPhase)
    (hap : authorityPhase cfg A s = (w, .ok ap))
    (hok : ∃ l, evalBlock cfg s.limits w.facts b (pre.length + 1) = .ok l) :
    dropBlockVerdict (pre.length + 1) (authorize cfg ⟨A, pre ++ b :: post⟩ s).2 =
      (authorize cfg ⟨A, pre ++ post⟩ s).2 := by
  have hf0 : ∀ c, dropBlockId (pre.length + 1) (.block 0 c) = .block 0 c := by
    intro c; simp [dropBlockId]
  have hfA : ∀ c, dropBlockId (pre.length + 1) (.authorizer c) = .authorizer c := fun _ => rfl
  rw [authorize, authorize, authorizeWith_snd, authorizeWith_snd, hap]
  simp only [verdictOf]
  rw [blockPhase_append, blockPhase_append]
  cases hpre : blockPhase cfg s.limits w.facts pre 1 ap.failed with
  | error e => rfl
  | ok a =>
    simp only [blockPhase]
    obtain ⟨l, hl⟩ := hok
    have hidx : 1 + pre.length = pre.length + 1 := by omega
    rw [hidx, hl]
    have hlnil : l = [] := by
      obtain ⟨wb, _, rfl⟩ := evalBlock_eq_ok cfg _ _ _ _ l hl
      rw [hb]; rfl
    subst hlnil
    simp only [List.append_nil]
    -- `dropBlockId` commutes with the block loop (`blockPhase_retag`): on `pre` (and on the
    -- authority phase's failures) it is the identity, on `post` it is the shift down by one
    have ha : a.map (dropBlockId (pre.length + 1)) = a := by
      have := blockPhase_retag cfg s.limits w.facts (dropBlockId (pre.length + 1)) pre 1 1 ap.failed
        (fun j c hj => by simp only [dropBlockId]; rw [if_neg (by omega)])
      rw [authorityPhase_failed_map cfg A s w ap hap _ hfA hf0, hpre] at this
      exact Except.ok.inj this
    have hshift := blockPhase_retag cfg s.limits w.facts (dropBlockId (pre.length + 1)) post
      (pre.length + 1 + 1) (pre.length + 1) a
      (fun j c _ => by simp only [dropBlockId]; rw [if_pos (by omega)]; congr 1; omega)
    rw [ha] at hshift
    rw [← hshift]
    -- `dropBlockVerdict` goes through `finish`: it changes failed-check identifiers only
    rcases blockPhase cfg s.limits w.facts post (pre.length + 1 + 1) a with e | _ | ⟨x, xs⟩
    · rfl
    · rcases ap.policy with _ | _ | _ <;> rfl
    · rfl

/-- **C03, second sentence.** Every authority-level fact (authority block and authorizer
facts and what their rules derive) is visible in every block's world. -/
theorem authority_visible_everywhere (cfg : EvalCfg) (lim : Limits) (base : List DFact) (b : Block)
    (w : World) (h : runWorld cfg lim { facts := insertAll base b.facts, rules := b.rules } = (w, none)) :
    ∀ f ∈ base, f ∈ w.facts := by
  intro f hf
  exact (run_subset (h := (runWorld_run cfg lim _ w none h).1)) f
    ((mem_insertAll _ _ _).2 (Or.inl hf))

/-! Non-vacuity: block 1 derives exactly the fact the policy asks for, and the policy
still does not match; block 2's check does not see block 1's fact. -/

def cfg0 : EvalCfg := { rx := fun _ _ => none }
def fAdmin : DFact := { name := [97], args := [] }                                  -- a()
def qAdmin : DRule := { head := { name := [113], terms := [] }, body := [{ name := [97], terms := [] }], exprs := [] }
def tokP : Token :=
  { authority := { facts := [], rules := [], checks := [] },
    blocks := [ { facts := [fAdmin], rules := [], checks := [{ queries := [qAdmin] }] },
                { facts := [], rules := [], checks := [{ queries := [qAdmin] }] } ] }
def authP : AuthState :=
  addPolicy (AuthState.fresh { maxFacts := 1000, maxIter := 100 }) { kind := .allow, queries := [qAdmin] }

example : (authorize cfg0 tokP authP).2 = .checksFailed [.block 2 0] := by decide
example : (authorize cfg0 { tokP with blocks := tokP.blocks.take 1 } authP).2 = .noMatch := by decide

end Biscuit.C03
