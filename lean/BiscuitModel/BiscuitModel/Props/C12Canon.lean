/-
Props/C12Canon — the canonical representative of a written set.

Go's `Set.Equal` ignores element order; the engine model compares values structurally, so the
construction step `canon` (drop repeats, then insertion sort by the injective key `atomKey`)
must send every writing of the same set to the same list: `canon_eq_of_same_members`. With
it, structural equality of canonical representatives is exactly `Set.Equal`
(`canon_eq_iff_setEqual`, `canon_eq_iff_setEqual_canon`).
-/
import BiscuitModel.Proofs.Construct
import BiscuitModel.Props.C12Sets

namespace Biscuit.C12Canon
open Biscuit Biscuit.Construct Biscuit.C12Sets

/-! `canon l` is a duplicate-free rearrangement of `dedup l` -/

theorem canon_perm (l : List Atom) : (canon l).Perm (dedup l) := sortAtoms_perm _

theorem canon_length (l : List Atom) : (canon l).length = (dedup l).length := (canon_perm l).length_eq

theorem mem_canon (l : List Atom) (a : Atom) : a ∈ canon l ↔ a ∈ l :=
  (canon_perm l).mem_iff.trans (mem_dedup l a)

theorem canon_nodup (l : List Atom) : (canon l).Nodup := (canon_perm l).nodup_iff.2 (dedup_nodup l)

theorem canon_sorted (l : List Atom) : (canon l).Pairwise (fun a b => atomLe a b = true) :=
  sortAtoms_sorted _

theorem atomKey_injective : ∀ a b : Atom, atomKey a = atomKey b → a = b := by
  intro a b h
  have hu : ∀ x y : UInt8, x.toNat = y.toNat → x = y := fun _ _ e => UInt8.toNat_inj.1 e
  -- keys of different constructors differ in their first element: only the diagonal is left
  cases a <;> cases b <;> simp only [atomKey, List.cons.injEq, reduceCtorEq] at h <;>
    try (simp at h; done)
  case int.int i j =>
    obtain ⟨_, h1, h2⟩ := h
    simp only [and_true] at h2
    congr 1
    split at h1 <;> split at h1 <;> simp at h1 <;> omega
  case str.str s t =>
    rw [(List.map_inj_right hu).1 h.2]
  case date.date d e =>
    simp at h; rw [h]
  case bytes.bytes s t =>
    rw [(List.map_inj_right hu).1 h.2]
  case bool.bool x y =>
    cases x <;> cases y <;> simp at h <;> rfl

/-- In particular far outside the `int64` range. -/
example : atomKey (.int (-(2 ^ 64))) ≠ atomKey (.int (-(2 ^ 64) - 1)) := by decide

theorem keyLe_refl (a : List Nat) : keyLe a a = true := (keyLe_iff a a).2 (List.le_refl a)

theorem keyLe_total (a b : List Nat) : keyLe a b = true ∨ keyLe b a = true := by
  simp only [keyLe_iff]
  exact List.le_total a b

theorem keyLe_trans {a b c : List Nat} (h1 : keyLe a b = true) (h2 : keyLe b c = true) :
    keyLe a c = true :=
  (keyLe_iff a c).2 (List.le_trans ((keyLe_iff a b).1 h1) ((keyLe_iff b c).1 h2))

theorem keyLe_antisymm {a b : List Nat} (h1 : keyLe a b = true) (h2 : keyLe b a = true) : a = b :=
  List.le_antisymm ((keyLe_iff a b).1 h1) ((keyLe_iff b a).1 h2)

theorem atomLe_antisymm {a b : Atom} (h1 : atomLe a b = true) (h2 : atomLe b a = true) : a = b :=
  atomKey_injective a b (keyLe_antisymm h1 h2)

/-- Two writings of the same set — any order, any repeats — have the same
canonical representative. -/
theorem canon_eq_of_same_members (l l' : List Atom) (h : ∀ a, a ∈ l ↔ a ∈ l') :
    canon l = canon l' := by
  have hp : (canon l).Perm (canon l') :=
    (List.perm_ext_iff_of_nodup (canon_nodup l) (canon_nodup l')).2
      (fun a => by rw [mem_canon, mem_canon]; exact h a)
  exact hp.eq_of_pairwise (fun _ _ _ _ => atomLe_antisymm) (canon_sorted l) (canon_sorted l')

theorem canon_eq_iff_same_members (l l' : List Atom) :
    canon l = canon l' ↔ ∀ a, a ∈ l ↔ a ∈ l' :=
  ⟨fun h a => by rw [← mem_canon l, ← mem_canon l', h], canon_eq_of_same_members l l'⟩

theorem canon_eq_iff_setEqual (l l' : List Atom) :
    canon l = canon l' ↔ setEqual (dedup l) (dedup l') = true := by
  rw [canon_eq_iff_same_members, setEqual_iff _ _ (dedup_nodup l) (dedup_nodup l')]
  simp only [mem_dedup]

/-- Structural equality of canonical representatives is `Set.Equal` on them. -/
theorem canon_eq_iff_setEqual_canon (l l' : List Atom) :
    canon l = canon l' ↔ setEqual (canon l) (canon l') = true := by
  rw [canon_eq_iff_same_members, setEqual_iff _ _ (canon_nodup l) (canon_nodup l')]
  simp only [mem_canon]

theorem canon_of_sorted_nodup (l : List Atom) (hn : l.Nodup)
    (hs : l.Pairwise (fun a b => atomLe a b = true)) : canon l = l := by
  show sortAtoms (dedup l) = l
  rw [dedup_of_nodup _ hn]
  exact sortAtoms_of_sorted _ hs

theorem canon_idem (l : List Atom) : canon (canon l) = canon l :=
  canon_of_sorted_nodup _ (canon_nodup l) (canon_sorted l)

example : canon [.int 2, .int 1, .int 2] = canon [.int 1, .int 2, .int 1, .int 1] := by decide
example : canon [.int 2, .int 1, .int 2] = [.int 1, .int 2] := by decide
/-- Negatives come first, by magnitude: the order is a key order, not the numeric one. -/
example : canon [.int 3, .int (-1), .int 0, .int (-5)] = [.int (-1), .int (-5), .int 0, .int 3] := by
  decide
/-- Beyond `int64` the two orders of writing still agree. -/
example : canon [.int (-(2 ^ 64)), .int (-(2 ^ 64) - 1)] = canon [.int (-(2 ^ 64) - 1), .int (-(2 ^ 64))] := by
  decide
example : canon [.str [98], .str [97, 98], .str [98], .str [97]] =
    canon [.str [97], .str [98], .str [97, 98]] := by decide
example : canon [.bytes [1, 2], .bytes [0], .bytes [1, 2]] = canon [.bytes [0], .bytes [1, 2], .bytes [0]] := by
  decide
example : canon [.bool true, .date 5, .str [1], .int 7, .bytes [1]] =
    canon [.bytes [1], .int 7, .str [1], .date 5, .bool true, .int 7] := by decide
example : canon [.int 1] ≠ canon [.int 2] := by decide
example : canon [.int 1] ≠ canon [.int (-1)] := by decide
example : canon [.str [97]] ≠ canon [.bytes [97]] := by decide
/-- The main theorem applied, not just evaluated. -/
example (x y : Atom) : canon [x, y, x] = canon [y, x, y, y] :=
  canon_eq_of_same_members _ _ (fun a => by
    simp only [List.mem_cons, List.not_mem_nil, or_false]
    constructor
    · rintro (h | h | h) <;> simp [h]
    · rintro (h | h | h | h) <;> simp [h])

end Biscuit.C12Canon
