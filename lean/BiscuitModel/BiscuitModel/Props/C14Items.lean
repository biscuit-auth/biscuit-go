/-
Props/C14Items — the round trip of C14 lifted from expressions to whole statements
(facts, rules, checks, policies) and statement lists, token level.

`Model/Render.renderItem(s)` is the reference rendering of a statement (list);
`Model/Grammar.parseItem(s)` reads it back, for every well-formed statement, with the model's
own fuel (`fuelFor`), and the block grammar (`allowPolicy = false`) has no policies.

What "well formed" requires, and what it need not:

* predicate names: nothing. `parsePred` takes the string of any `.ident` token, also `or`
  (`pred_named_or`); which strings the lexer turns into `.ident` is a character-level
  question (`Props/C14Text`).
* expression elements: `C14.WF` and nothing else. `parseElem` reads "identifier `(`" as a
  predicate, but no rendered expression starts with an identifier
  (`expr_never_starts_like_pred`).
* bodies and query lists: non-empty (`empty_body_rejected`, `empty_check_rejected`).
* what follows a statement: `ItemStops` (uniform) or, per statement kind and only about the
  one token the parser looks at, `Grammar.itemFollow`.
* `;` terminates every statement of a list, also the last (`missing_terminator_rejected`).
-/
import BiscuitModel.Proofs.GrammarItems
import BiscuitModel.Props.C14

namespace Biscuit.C14Items
open Biscuit Biscuit.Grammar Biscuit.Printer Biscuit.Render Biscuit.C14

/-- `parsePred` requires nothing of the name (any `.ident` token); every argument is a
well-formed term (a non-empty, non-nested set, or an atom). -/
def PredWF (p : PPred) : Prop := ∀ t ∈ p.terms, TermWF t

/-- No side condition on expression elements: see `expr_never_starts_like_pred`. -/
def ElemWF : PElem → Prop
  | .pred p => PredWF p
  | .expr e => WF e

/-- A rule body / one query: at least one element (`empty_body_rejected`). -/
def BodyWF (body : List PElem) : Prop := body ≠ [] ∧ ∀ e ∈ body, ElemWF e

def RuleWF (r : PRule) : Prop := PredWF r.head ∧ BodyWF r.body

/-- At least one query, every query a well-formed (non-empty) body. -/
def QueriesWF (qs : List (List PElem)) : Prop := qs ≠ [] ∧ ∀ q ∈ qs, BodyWF q

def CheckWF (c : PCheck) : Prop := QueriesWF c.queries

def PolicyWF (p : PPolicy) : Prop := QueriesWF p.queries

def ItemWF : PItem → Prop
  | .fact p => PredWF p
  | .rule r => RuleWF r
  | .check c => CheckWF c
  | .policy p => PolicyWF p

instance decAtomTermWF : (t : PTerm) → Decidable (AtomTermWF t)
  | .set _ => inferInstanceAs (Decidable False)
  | .param _ | .var _ | .int _ | .negInt _ | .str _ | .date _ | .bytes _ | .bool _ =>
    inferInstanceAs (Decidable True)

instance decTermWF : (t : PTerm) → Decidable (TermWF t)
  | .set elts => inferInstanceAs (Decidable (elts ≠ [] ∧ ∀ t ∈ elts, AtomTermWF t))
  | .param _ | .var _ | .int _ | .negInt _ | .str _ | .date _ | .bytes _ | .bool _ =>
    inferInstanceAs (Decidable True)

instance decWF : (e : PExpr) → Decidable (WF e)
  | .term t => inferInstanceAs (Decidable (TermWF t))
  | .paren e => decWF e
  | .neg e => have := decWF e; inferInstanceAs (Decidable (WF e ∧ level e ≥ 6))
  | .bin op l r =>
    have := decWF l; have := decWF r
    inferInstanceAs (Decidable (WF l ∧ WF r ∧ level (.bin op l r) ≤ 4 ∧
      (if level (.bin op l r) = 2 then level l ≥ 3 ∧ level r ≥ 3
       else level l ≥ level (.bin op l r) ∧ level r > level (.bin op l r))))
  | .method op recv arg =>
    have := decWF recv; have := decWF arg
    inferInstanceAs (Decidable (isMethodOp op = true ∧ WF recv ∧ WF arg ∧ level recv ≥ 6))
  | .length recv => have := decWF recv; inferInstanceAs (Decidable (WF recv ∧ level recv ≥ 6))

instance decPredWF (p : PPred) : Decidable (PredWF p) :=
  inferInstanceAs (Decidable (∀ t ∈ p.terms, TermWF t))

instance decElemWF : (e : PElem) → Decidable (ElemWF e)
  | .pred p => decPredWF p
  | .expr e => decWF e

instance decBodyWF (body : List PElem) : Decidable (BodyWF body) :=
  inferInstanceAs (Decidable (body ≠ [] ∧ ∀ e ∈ body, ElemWF e))

instance decRuleWF (r : PRule) : Decidable (RuleWF r) :=
  inferInstanceAs (Decidable (PredWF r.head ∧ BodyWF r.body))

instance decQueriesWF (qs : List (List PElem)) : Decidable (QueriesWF qs) :=
  inferInstanceAs (Decidable (qs ≠ [] ∧ ∀ q ∈ qs, BodyWF q))

instance decItemWF : (it : PItem) → Decidable (ItemWF it)
  | .fact p => decPredWF p
  | .rule r => decRuleWF r
  | .check c => decQueriesWF c.queries
  | .policy p => decQueriesWF p.queries

/-- A token after which no statement continues: not `,`, not `or`, not `<-`, and nothing
that continues an expression. -/
def stopTok (t : Tok) : Bool :=
  t != .punct ',' && t != .ident "or" && t != .arrow && t != .orOp && t != .andOp && t != .dot &&
  (cmpOfTok t).isNone && (addOfTok t).isNone && (mulOfTok t).isNone

/-- What may follow a statement, uniformly for all kinds: the end of the input or a stop
token, `;` in particular. The exact condition per kind is `Grammar.itemFollow`
(`Grammar.parseItem_render`). -/
def ItemStops : List Tok → Prop
  | [] => True
  | t :: _ => stopTok t = true

instance : (rest : List Tok) → Decidable (ItemStops rest)
  | [] => inferInstanceAs (Decidable True)
  | t :: _ => inferInstanceAs (Decidable (stopTok t = true))

theorem itemStops_semicolon (r : List Tok) : ItemStops (.punct ';' :: r) :=
  (by decide : stopTok (.punct ';') = true)

/-- `parseElem` takes the predicate branch exactly on "identifier `(`". -/
def startsLikePred : List Tok → Bool := Grammar.startsLikePred

/-! ## The property-side predicates are the proof-side copies (`PredWF p` and `PredOK p` unfold to the same
proposition, so a proof of one is accepted for the other) -/

theorem ElemWF_eq (e : PElem) : ElemWF e = ElemOK e := by
  cases e with
  | pred p => rfl
  | expr e => exact WF_eq e

theorem BodyWF_eq (b : List PElem) : BodyWF b = BodyOK b := by
  simp only [BodyWF, BodyOK, ElemWF_eq]

theorem QueriesWF_eq (qs : List (List PElem)) : QueriesWF qs = QueriesOK qs := by
  simp only [QueriesWF, QueriesOK, BodyWF_eq]

theorem ItemWF_eq (it : PItem) : ItemWF it = ItemOK it := by
  cases it with
  | fact p => rfl
  | rule r => exact congrArg (PredOK r.head ∧ ·) (BodyWF_eq r.body)
  | check c => exact QueriesWF_eq c.queries
  | policy p => exact QueriesWF_eq p.queries

theorem follow0_of_stops {rest : List Tok} (h : ItemStops rest) : Follow 0 rest := by
  cases rest with
  | nil => exact Follow.nil 0
  | cons t r =>
    have h' : stopTok t = true := h
    simp only [stopTok, Bool.and_eq_true, bne_iff_ne, ne_eq, Option.isNone_iff_eq_none] at h'
    obtain ⟨⟨⟨⟨⟨⟨⟨⟨_, _⟩, _⟩, h4⟩, h5⟩, h6⟩, h7⟩, h8⟩, h9⟩ := h'
    exact Follow.cons ⟨fun _ => h4, fun _ => h5, fun _ => h7, fun _ => h8, fun _ => h9, fun _ => h6⟩ r

theorem not_head_of_stops {rest : List Tok} (h : ItemStops rest) {t : Tok} (ht : stopTok t = false)
    (r : List Tok) : rest = t :: r → False := by
  intro hx; subst hx; exact absurd (show stopTok t = true from h) (by simp [ht])

theorem commaStop_of_stops {rest : List Tok} (h : ItemStops rest) : commaStop rest :=
  not_head_of_stops h (by decide)

theorem orIdentStop_of_stops {rest : List Tok} (h : ItemStops rest) : orIdentStop rest :=
  not_head_of_stops h (by decide)

theorem arrowStop_of_stops {rest : List Tok} (h : ItemStops rest) : arrowStop rest :=
  not_head_of_stops h (by decide)

theorem bodyFollow_of_stops {rest : List Tok} (h : ItemStops rest) (b : List PElem) :
    bodyFollow b rest := fun _ _ => elemFollow_of_Follow (follow0_of_stops h)

theorem itemFollow_of_stops {rest : List Tok} (h : ItemStops rest) (it : PItem) :
    itemFollow it rest := by
  cases it with
  | fact p => exact arrowStop_of_stops h
  | rule r => exact ⟨commaStop_of_stops h, bodyFollow_of_stops h _⟩
  | check c => exact ⟨commaStop_of_stops h, orIdentStop_of_stops h, fun q _ => bodyFollow_of_stops h q⟩
  | policy p => exact ⟨commaStop_of_stops h, orIdentStop_of_stops h, fun q _ => bodyFollow_of_stops h q⟩

/-- **Predicates.** `name(t₁, …, tₙ)` and the zero-argument form `name()` are read back,
whatever follows; fuel: the number of tokens of the predicate. -/
theorem parsePred_render (p : PPred) (h : PredWF p) (rest : List Tok) (fuel : Nat)
    (hf : fuel ≥ (renderPred p).length) :
    parsePred fuel (renderPred p ++ rest) = some (p, rest) :=
  Grammar.parsePred_render p h rest fuel hf

/-- **Predicate or expression?** `parseElem` decides on the first two tokens. A rendered
predicate always takes the predicate branch, a rendered expression never does, well formed
or not: it starts with a literal, `$var`, `{param}`, `[`, `(` or `!`. So `ElemWF` needs no
side condition. -/
theorem expr_never_starts_like_pred (e : PExpr) (rest : List Tok) :
    startsLikePred (renderToks e ++ rest) = false ∧
    ∀ p : PPred, startsLikePred (renderPred p ++ rest) = true :=
  ⟨startsLikePred_renderToks e rest, fun _ => rfl⟩

/-- **One body element.** After an expression nothing may follow that continues it
(`Follow 0`); after a predicate anything may follow. -/
theorem parseElem_render (e : PElem) (h : ElemWF e) (rest : List Tok) (hr : elemFollow e rest)
    (fuel : Nat) (hf : fuel ≥ 16 * (renderElem e).length + 15) :
    parseElem fuel (renderElem e ++ rest) = some (e, rest) :=
  Grammar.parseElem_render e ((ElemWF_eq e).mp h) rest hr fuel hf

/-- **Bodies**: elements separated by `,`. The rest must not start with `,` and must not
continue the last element. -/
theorem parseElems_render (body : List PElem) (h : BodyWF body) (rest : List Tok)
    (hc : commaStop rest) (hr : bodyFollow body rest) (fuel : Nat)
    (hf : fuel ≥ 16 * (renderBody body).length + 16) :
    parseElems fuel (renderBody body ++ rest) = some (body, rest) :=
  Grammar.parseElems_render body ((BodyWF_eq body).mp h) rest hc hr fuel hf

/-- **Alternative queries**: bodies separated by `or`. The rest must not start with `,` or
`or` and must not continue the last element of the last query. -/
theorem parseQueries_render (qs : List (List PElem)) (h : QueriesWF qs) (rest : List Tok)
    (hc : commaStop rest) (ho : orIdentStop rest) (hr : queriesFollow qs rest) (fuel : Nat)
    (hf : fuel ≥ 16 * (renderQueries qs).length + 17) :
    parseQueries fuel (renderQueries qs ++ rest) = some (qs, rest) :=
  Grammar.parseQueries_render qs ((QueriesWF_eq qs).mp h) rest hc ho hr fuel hf

theorem parseQueries_render_stops (qs : List (List PElem)) (h : QueriesWF qs) (rest : List Tok)
    (hr : ItemStops rest) (fuel : Nat) (hf : fuel ≥ 16 * (renderQueries qs).length + 17) :
    parseQueries fuel (renderQueries qs ++ rest) = some (qs, rest) :=
  parseQueries_render qs h rest (commaStop_of_stops hr) (orIdentStop_of_stops hr)
    (fun q _ => bodyFollow_of_stops hr q) fuel hf

/-- **C14 (statements), token level.** Every well-formed fact, rule, check and — where
policies are allowed — policy is read back as itself, and the parser stops exactly at its
end, provided the input ends there or goes on with a stop token (`;` in particular). -/
theorem parseItem_render (it : PItem) (h : ItemWF it) (allowPolicy : Bool)
    (hp : isPolicy it = false ∨ allowPolicy = true) (rest : List Tok) (hr : ItemStops rest)
    (fuel : Nat) (hf : fuel ≥ 16 * (renderItem it).length + 16) :
    parseItem fuel allowPolicy (renderItem it ++ rest) = some (it, rest) :=
  Grammar.parseItem_render it ((ItemWF_eq it).mp h) allowPolicy hp rest (itemFollow_of_stops hr it) fuel hf

/-- The single-statement entry points (`FromStringFact/Rule/Check/Policy`, token level:
what `parseSingleText` does after the lexer): the model's own fuel suffices. -/
theorem parseSingle_render (it : PItem) (h : ItemWF it) :
    parseItem (fuelFor (renderItem it)) true (renderItem it) = some (it, []) := by
  have := parseItem_render it h true (Or.inr rfl) [] trivial (fuelFor (renderItem it))
    (by simp only [fuelFor]; omega)
  simpa using this

/-- **The block grammar has no policies**: with `allowPolicy = false` an `allow if` /
`deny if` statement is an error, whatever its queries are, whatever follows, for every fuel. -/
theorem policy_rejected (p : PPolicy) (rest : List Tok) (fuel : Nat) :
    parseItem fuel false (renderItem (.policy p) ++ rest) = none :=
  parseItem_policy_rejected p rest fuel

/-- **C14 (statement lists), token level.** A list of well-formed statements, each followed by
`;`, is read back as itself with `fuelFor` of the token list — the fuel `parseBlockText` /
`parseAuthorizerText` use, so the model's fuel never runs out on a well-formed text.
Policies only where allowed. -/
theorem parseItems_render (its : List PItem) (h : ∀ it ∈ its, ItemWF it) (allowPolicy : Bool)
    (hp : ∀ it ∈ its, isPolicy it = false ∨ allowPolicy = true) :
    parseItems (fuelFor (renderItems its)) allowPolicy (renderItems its) = some its :=
  Grammar.parseItems_render its (fun it hit => (ItemWF_eq it).mp (h it hit)) allowPolicy hp _
    (by simp only [fuelFor]; omega)

/-- Authorizer text: everything is allowed. -/
theorem parseItems_render_authorizer (its : List PItem) (h : ∀ it ∈ its, ItemWF it) :
    parseItems (fuelFor (renderItems its)) true (renderItems its) = some its :=
  parseItems_render its h true (fun _ _ => Or.inr rfl)

/-- Block text: one policy anywhere makes the whole block an error (the statements before
it are well formed, those after it arbitrary). -/
theorem parseItems_policy_rejected (pre : List PItem) (p : PPolicy) (post : List PItem)
    (h : ∀ it ∈ pre, ItemWF it) (hp : ∀ it ∈ pre, isPolicy it = false) :
    parseItems (fuelFor (renderItems (pre ++ .policy p :: post))) false
      (renderItems (pre ++ .policy p :: post)) = none := by
  refine Grammar.parseItems_policy_rejected pre p post (fun it hit => (ItemWF_eq it).mp (h it hit)) hp _ ?_
  have hl : (renderItems pre).length ≤ (renderItems (pre ++ .policy p :: post)).length := by
    rw [renderItems_append, List.length_append]; omega
  simp only [fuelFor]; omega

/-- **An empty rule body is not accepted** (`head <- ;`), with any fuel that lets the head
be read at all. -/
theorem empty_body_rejected (hd : PPred) (h : PredWF hd) (pol : Bool) (r : List Tok) (fuel : Nat)
    (hf : fuel ≥ (renderPred hd).length) :
    parseItem fuel pol (renderItem (.rule ⟨hd, []⟩) ++ .punct ';' :: r) = none := by
  show parseItem fuel pol ((renderPred hd ++ [.arrow]) ++ .punct ';' :: r) = none
  rw [List.append_assoc, parseItem_renderPred, parsePred_render hd h _ fuel hf]
  show (parseElems fuel (.punct ';' :: r)).map _ = none
  rw [parseElems_semicolon]; rfl

/-- **A check without a query is not accepted** (`check if ;` — which is also the rendering
of a check whose only query is empty), for every fuel. -/
theorem empty_check_rejected (pol : Bool) (r : List Tok) (fuel : Nat) :
    parseItem fuel pol (renderItem (.check ⟨[]⟩) ++ .punct ';' :: r) = none ∧
    renderItem (.check ⟨[[]]⟩) = renderItem (.check ⟨[]⟩) := by
  refine ⟨?_, rfl⟩
  show parseItem fuel pol (.keyword "check if" :: .punct ';' :: r) = none
  rw [parseItem.eq_1]
  cases fuel with
  | zero => rfl
  | succ g => rw [parseQueries.eq_2, parseElems_semicolon]; rfl

/-- **`;` is a terminator, not a separator**: a statement list whose last statement lacks
its `;` is an error. -/
theorem missing_terminator_rejected (it : PItem) (h : ItemWF it) (allowPolicy : Bool)
    (hp : isPolicy it = false ∨ allowPolicy = true) (fuel : Nat)
    (hf : fuel ≥ 16 * (renderItem it).length + 17) :
    parseItems fuel allowPolicy (renderItem it) = none := by
  obtain ⟨g, rfl⟩ : ∃ g, fuel = g + 1 := ⟨fuel - 1, by omega⟩
  have hpi := parseItem_render it h allowPolicy hp [] trivial g (by omega)
  rw [List.append_nil] at hpi
  rw [parseItems.eq_3, hpi]
  intro hx
  cases it <;> simp [renderItem, renderPred, renderRule, renderCheck, renderPolicy] at hx

/-- The follow condition is needed: a fact followed by `<-` is the beginning of a rule. -/
example : parseItem 100 false (renderItem (.fact ⟨"a", []⟩) ++ [.arrow, .ident "b", .punct '(', .punct ')']) =
    some (.rule ⟨⟨"a", []⟩, [.pred ⟨"b", []⟩]⟩, []) := by rfl

/-- …and a check followed by `||` goes on. -/
example : parseItem 100 false (renderItem (.check ⟨[[.expr (.term (.var "x"))]]⟩) ++ [.orOp, .var "y"]) =
    some (.check ⟨[[.expr (.bin .or (.term (.var "x")) (.term (.var "y")))]]⟩, []) := by rfl

/-- The name of a predicate is free at token level: even `or` — the separator of queries —
is a predicate name where a predicate can start. -/
theorem pred_named_or :
    ItemWF (.check ⟨[[.pred ⟨"or", []⟩], [.pred ⟨"or", [.int ['1']]⟩]]⟩) ∧
    renderItems [.check ⟨[[.pred ⟨"or", []⟩], [.pred ⟨"or", [.int ['1']]⟩]]⟩] =
      [.keyword "check if", .ident "or", .punct '(', .punct ')', .ident "or",
       .ident "or", .punct '(', .int ['1'], .punct ')', .punct ';'] := by
  constructor
  · decide
  · decide +kernel

/-- `right($u, "read") <- user($u), owner($u, $f), $f.starts_with("/a/") || $u == "admin"` -/
def exRule : PItem := .rule
  { head := ⟨"right", [.var "u", .str ['r', 'e', 'a', 'd']]⟩
    body := [
      .pred ⟨"user", [.var "u"]⟩,
      .pred ⟨"owner", [.var "u", .var "f"]⟩,
      .expr (.bin .or
        (.method .pfx (.term (.var "f")) (.term (.str ['/', 'a', '/'])))
        (.bin .eq (.term (.var "u")) (.term (.str ['a', 'd', 'm', 'i', 'n']))))] }

/-- `check if resource($r), operation("read") or admin(true), !$x.contains([1, 2])` -/
def exCheck : PItem := .check
  { queries := [
      [.pred ⟨"resource", [.var "r"]⟩, .pred ⟨"operation", [.str ['r', 'e', 'a', 'd']]⟩],
      [.pred ⟨"admin", [.bool true]⟩,
       .expr (.neg (.method .contains (.term (.var "x")) (.term (.set [.int ['1'], .int ['2']]))))]] }

/-- `allow if user($u), $u == {name} or true` -/
def exPolicy : PItem := .policy
  { allow := true
    queries := [
      [.pred ⟨"user", [.var "u"]⟩, .expr (.bin .eq (.term (.var "u")) (.term (.param "name")))],
      [.expr (.term (.bool true))]] }

/-- `deny if $t.length() + 1 <= 2 * ($n - 3)` -/
def exDeny : PItem := .policy
  { allow := false
    queries := [[.expr (.bin .le
      (.bin .add (.length (.term (.var "t"))) (.term (.int ['1'])))
      (.bin .mul (.term (.int ['2'])) (.paren (.bin .sub (.term (.var "n")) (.term (.int ['3']))))))]] }

/-- `roles("alice", ["admin", "dev"], hex:00ff, 2020-01-01T00:00:00Z, [7])` and `now()` -/
def exFact : PItem := .fact ⟨"roles",
  [.str ['a', 'l', 'i', 'c', 'e'],
   .set [.str ['a', 'd', 'm', 'i', 'n'], .str ['d', 'e', 'v']],
   .bytes ['0', '0', 'f', 'f'],
   .date "2020-01-01T00:00:00Z".toList,
   .set [.int ['7']]]⟩

def exNullary : PItem := .fact ⟨"now", []⟩

example : ItemWF exRule := by decide +kernel
example : ItemWF exCheck := by decide +kernel
example : ItemWF exPolicy := by decide +kernel
example : ItemWF exDeny := by decide +kernel
example : ItemWF exFact := by decide +kernel
example : ItemWF exNullary := by decide +kernel

/-- Not everything is well formed: an empty set, a nested set, an empty body, `a < b < c`. -/
example : ¬ ItemWF (.fact ⟨"a", [.set []]⟩) := by decide +kernel
example : ¬ ItemWF (.fact ⟨"a", [.set [.set [.int ['1']]]]⟩) := by decide +kernel
example : ¬ ItemWF (.rule ⟨⟨"a", []⟩, []⟩) := by decide +kernel
example : ¬ ItemWF (.check ⟨[]⟩) := by decide +kernel
example : ¬ ItemWF (.check ⟨[[.expr (.bin .lt (.bin .lt (.term (.var "a")) (.term (.var "b"))) (.term (.var "c")))]]⟩) := by
  decide +kernel

theorem exRule_tokens : renderItems [exRule] =
    [.ident "right", .punct '(', .var "u", .punct ',', .str ['r', 'e', 'a', 'd'], .punct ')', .arrow,
     .ident "user", .punct '(', .var "u", .punct ')', .punct ',',
     .ident "owner", .punct '(', .var "u", .punct ',', .var "f", .punct ')', .punct ',',
     .var "f", .dot, .ident "starts_with", .punct '(', .str ['/', 'a', '/'], .punct ')', .orOp,
     .var "u", .op "==", .str ['a', 'd', 'm', 'i', 'n'], .punct ';'] := by
  decide +kernel

/-- The lexer makes exactly these tokens of the text of the rule. -/
theorem exRule_lexes :
    lex "right($u, \"read\") <- user($u), owner($u, $f), $f.starts_with(\"/a/\") || $u == \"admin\";".toList =
      some (renderItems [exRule]) :=
  lex_lit (by decide +kernel)

/-- Evaluation agrees with the theorems (each by computation, independently of them). -/
example : parseItems (fuelFor (renderItems [exRule])) false (renderItems [exRule]) = some [exRule] := by rfl
example : parseItems (fuelFor (renderItems [exCheck])) false (renderItems [exCheck]) = some [exCheck] := by rfl
example : parseItems (fuelFor (renderItems [exPolicy])) true (renderItems [exPolicy]) = some [exPolicy] := by rfl
example : parseItems (fuelFor (renderItems [exFact])) false (renderItems [exFact]) = some [exFact] := by rfl

def exBlock : List PItem := [exFact, exNullary, exRule, exCheck]
def exAuthorizer : List PItem := [exFact, exNullary, exRule, exCheck, exPolicy, exDeny]

example : parseItems (fuelFor (renderItems exBlock)) false (renderItems exBlock) = some exBlock := by rfl
example : parseItems (fuelFor (renderItems exAuthorizer)) true (renderItems exAuthorizer) = some exAuthorizer := by
  rfl
example : parseItems (fuelFor (renderItems exAuthorizer)) false (renderItems exAuthorizer) = none := by rfl

/-- The same through the theorems. -/
example : parseItems (fuelFor (renderItems exAuthorizer)) true (renderItems exAuthorizer) = some exAuthorizer :=
  parseItems_render_authorizer exAuthorizer (by decide)

example : parseItems (fuelFor (renderItems exAuthorizer)) false (renderItems exAuthorizer) = none :=
  parseItems_policy_rejected exBlock _ [exDeny] (by decide) (by decide)

/-- From characters: the text of the rule is a block of one rule. -/
theorem exRule_text :
    parseBlockText "right($u, \"read\") <- user($u), owner($u, $f), $f.starts_with(\"/a/\") || $u == \"admin\";".toList =
      some [exRule] := by
  unfold parseBlockText
  rw [exRule_lexes]
  exact parseItems_render [exRule] (by decide) false (by decide)

end Biscuit.C14Items
