/-
Props/C12 — authorization is deterministic and independent of presentation order.

Determinism is the type of `authorize` (a function). Order-independence is stated
inside the error-free fragment (`WithinFragment`, Spec/Decision), as the property
words it: the outcome is a function of the *sets* of facts, rules and checks and of
the ordered *list* of policies.
-/
import BiscuitModel.Proofs.Perm

namespace Biscuit.C12
open Biscuit

variable {V E : Type} [DecidableEq V]

/-- **Engine level.** Permuting the facts and the rules of a program does not change
whether an error-free run succeeds, nor — as a set — what it derives. -/
theorem run_perm (ev : Bindings V → E → Outcome Bool) (hev : EvRespects ev)
    (mf mi : Nat) (P P' : List (Rule V E)) (F F' W : List (Fact V))
    (hP : P.Perm P') (hF : F.Perm F') (hn : F.Nodup)
    (h : run ev mf P mi F = (W, none)) :
    ∃ W', run ev mf P' mi F' = (W', none) ∧ W.Perm W' := by
  obtain ⟨W', hrun, hN', hmem⟩ := run_between ev hev mf (fun r => hP.mem_iff) mi F W F' h
    (hF.nodup_iff.mp hn) (fun f => hF.mem_iff.mp)
    (fun f hf => run_subset ev mf P mi F W none h f (hF.mem_iff.mpr hf))
  exact ⟨W', hrun, (List.perm_ext_iff_of_nodup (run_nodup ev mf P mi F W hn h) hN').mpr
    fun f => (hmem f).symm⟩

/-- Querying a rule over a permuted fact list returns the same instances, as a set,
and errs on one presentation iff it errs on the other. -/
theorem applyRule_perm (ev : Bindings V → E → Outcome Bool) (hev : EvRespects ev)
    (r : Rule V E) (S S' out : List (Fact V)) (hS : S.Perm S')
    (h : applyRule ev r S [] = (out, none)) :
    ∃ out', applyRule ev r S' [] = (out', none) ∧ out.Perm out' := by
  have hmemS : ∀ f, f ∈ S ↔ f ∈ S' := fun f => hS.mem_iff
  have hok : (applyRule ev r S' []).2 = none :=
    (applyRule_ok_congr ev r hmemS [] []).mp (by rw [h])
  have h' := eq_pair_none _ hok
  have hnd : out.Nodup := by
    have := applyCombos_nodup ev r (solve S r.body []) [] List.nodup_nil
    unfold applyRule at h
    rw [h] at this
    exact this
  have hnd' : (applyRule ev r S' []).1.Nodup :=
    applyCombos_nodup ev r (solve S' r.body []) [] List.nodup_nil
  refine ⟨_, h', (List.perm_ext_iff_of_nodup hnd hnd').mpr fun f => ?_⟩
  rw [applyRule_spec ev hev r S [] out h f, applyRule_spec ev hev r S' [] _ h' f]
  simp only [Sat.congr hmemS]

/-- Two checks / policies that differ only in the order of their queries. -/
def CheckPerm (c c' : Check) : Prop := c.queries.Perm c'.queries
def PolicyPerm (p p' : Policy) : Prop := p.kind = p'.kind ∧ p.queries.Perm p'.queries

/-- Two blocks with the same facts, rules and checks up to order (checks keep their
positions here; their order is handled by `authorize_perm_checks`). -/
def BlockPerm (b b' : Block) : Prop :=
  b.facts.Perm b'.facts ∧ b.rules.Perm b'.rules ∧ Forall2 CheckPerm b.checks b'.checks

/-- Two presentations of the same program: facts, rules and queries-in-check permuted
at every scope (token blocks and authorizer); policies in the same order. -/
structure SamePresentation (tok tok' : Token) (s s' : AuthState) : Prop where
  authority : BlockPerm tok.authority tok'.authority
  blocks : Forall2 BlockPerm tok.blocks tok'.blocks
  facts : s.world.facts.Perm s'.world.facts
  rules : s.world.rules.Perm s'.world.rules
  checks : Forall2 CheckPerm s.checks s'.checks
  policies : Forall2 PolicyPerm s.policies s'.policies
  limits : s.limits = s'.limits

/-- **C12 (facts, rules, queries).** Inside the fragment, two presentations give the
same verdict — including the identifiers of failed checks. -/
theorem authorize_perm (cfg : EvalCfg) (tok tok' : Token) (s s' : AuthState)
    (hf : WithinFragment cfg tok s) (hn : s.world.facts.Nodup)
    (hp : SamePresentation tok tok' s s') :
    (authorize cfg tok s).2 = (authorize cfg tok' s').2 := by
  have hcq : ∀ c c', CheckPerm c c' → SameQueries c c' := fun c c' h q => h.mem_iff
  have hblk : ∀ b b', BlockPerm b b' → SameBlock b b' := fun b b' h =>
    ⟨fun f => h.1.mem_iff, fun r => h.2.1.mem_iff, h.2.2.imp hcq⟩
  obtain ⟨hAf, hAr, hAc⟩ := hblk _ _ hp.authority
  exact authorize_congr cfg tok tok' s s' hf (hp.facts.nodup_iff.mp hn)
    (fun r => by rw [List.mem_append, List.mem_append, hp.rules.mem_iff, hAr r])
    (fun g hg => by rwa [← hp.facts.mem_iff, ← hAf g])
    (fun g hg => DerivableP.base (by rwa [hp.facts.mem_iff, hAf g]))
    hAc (hp.blocks.imp hblk) (hp.checks.imp hcq)
    (hp.policies.imp fun p p' h => ⟨h.1, fun q => h.2.mem_iff⟩) hp.limits

/-- **C12 (checks).** Permuting the authorizer's checks, the authority block's checks
and each later block's checks leaves the verdict class and the number of failed
checks unchanged. -/
theorem authorize_perm_checks (cfg : EvalCfg) (A A' : Block) (bs bs' : List Block) (s s' : AuthState)
    (hf : WithinFragment cfg ⟨A, bs⟩ s)
    (hA : A.facts = A'.facts ∧ A.rules = A'.rules ∧ A.checks.Perm A'.checks)
    (hbs : Forall2 (fun b b' => b.facts = b'.facts ∧ b.rules = b'.rules ∧ b.checks.Perm b'.checks) bs bs')
    (hs : s' = { s with checks := s'.checks }) (hc : s.checks.Perm s'.checks) :
    cls (authorize cfg ⟨A, bs⟩ s).2 = cls (authorize cfg ⟨A', bs'⟩ s').2 := by
  -- `hf` is kept in the statement and not needed: both sides perform the same runs
  have _ := hf
  have key := authorize_checks_cls cfg A A' bs bs' s s'.checks hA hbs hc
  rwa [← hs] at key

/-- Adding a fact that is already present (anywhere in the world) changes nothing. -/
theorem addFact_present (s : AuthState) (f : DFact) (h : f ∈ s.world.facts) : addFact s f = s := by
  simp only [addFact, insertFact_of_mem _ _ h]

/-- **Duplicating a fact** is a no-op. -/
theorem addFact_idempotent (s : AuthState) (f : DFact) : addFact (addFact s f) f = addFact s f :=
  addFact_present _ f ((mem_insertFact s.world.facts f f).mpr (Or.inr rfl))

/-- **Calling Authorize a second time** on the same authorizer gives the same verdict
(inside the fragment). -/
theorem authorize_twice (cfg : EvalCfg) (tok : Token) (s : AuthState)
    (hf : WithinFragment cfg tok s) (hn : s.world.facts.Nodup) :
    (authorize cfg tok (authorize cfg tok s).1).2 = (authorize cfg tok s).2 := by
  -- `hn` is kept in the statement and not needed; of `hf`, only the success of the
  -- authority-level run is used
  have _ := hn
  obtain ⟨w, hw⟩ := hf.authorityRun
  exact authorize_twice_run cfg tok s w hw

/-- The verdict depends on the policies as an ordered list: swapping two policies can
change it (so order-independence is rightly *not* claimed for policies). -/
theorem policy_order_matters :
    ∃ (cfg : EvalCfg) (tok : Token) (s s' : AuthState),
      s.policies.Perm s'.policies ∧ s' = { s with policies := s'.policies } ∧
      (authorize cfg tok s).2 ≠ (authorize cfg tok s').2 := by
  let q : DRule := { head := { name := [2], terms := [] },
                     body := [{ name := [1], terms := [] }], exprs := [] }
  let pa : Policy := { kind := .allow, queries := [q] }
  let pd : Policy := { kind := .deny, queries := [q] }
  let s0 : AuthState := AuthState.fresh { maxFacts := 1000, maxIter := 100 }
  refine ⟨{ rx := fun _ _ => none },
    { authority := { facts := [{ name := [1], args := [] }], rules := [], checks := [] }, blocks := [] },
    { s0 with policies := [pa, pd] }, { s0 with policies := [pd, pa] },
    List.Perm.swap _ _ _, rfl, ?_⟩
  decide

/-! Non-vacuity: a program and a non-trivial permutation of it, inside the fragment. -/

def cfg0 : EvalCfg := { rx := fun _ _ => none }
def lim0 : Limits := { maxFacts := 1000, maxIter := 100 }
def e (a b : Int) : DFact := { name := [101], args := [.atom (.int a), .atom (.int b)] }
def pathBase : DRule := { head := { name := [112], terms := [.var [120], .var [121]] },
                          body := [{ name := [101], terms := [.var [120], .var [121]] }], exprs := [] }
def pathStep : DRule := { head := { name := [112], terms := [.var [120], .var [122]] },
                          body := [{ name := [112], terms := [.var [120], .var [121]] },
                                   { name := [101], terms := [.var [121], .var [122]] }], exprs := [] }
def qPath : DRule := { head := { name := [113], terms := [] },
                       body := [{ name := [112], terms := [.const (.atom (.int 1)), .const (.atom (.int 4))] }], exprs := [] }
def tokG : Token := { authority := { facts := [e 1 2, e 2 3, e 3 4], rules := [pathBase, pathStep], checks := [{ queries := [qPath] }] }, blocks := [] }
def tokG' : Token := { authority := { facts := [e 3 4, e 1 2, e 2 3], rules := [pathStep, pathBase], checks := [{ queries := [qPath] }] }, blocks := [] }
def authG : AuthState := addPolicy (AuthState.fresh lim0) { kind := .allow, queries := [qPath] }

example : (authorize cfg0 tokG authG).2 = .ok := by decide
example : (authorize cfg0 tokG' authG).2 = .ok := by decide

end Biscuit.C12
