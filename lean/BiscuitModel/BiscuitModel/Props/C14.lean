/-
Props/C14 — the Datalog parser denotes the documented grammar and never panics.

Token level: `Model/Grammar.parse*` on token lists, `Model/Printer.renderToks` as the
reference rendering of an abstract syntax tree; statements (facts, rules, checks, policies):
`Props/C14Items`. Character level — the lexer re-reads the spelling of a rendered token list,
in every admissible layout: `Props/C14Lexer`, `Props/C14Layout`, `Props/C14Text`; signed
integer literals: `Props/C14Neg`. participle itself is modelled (by a recursive-descent
reading of the same grammar), not verified.
"Never panics": the model's parse functions are total (`Option`), so a successful parse
carries no nil term by construction (`denote*` return complete terms or `none`); the
implementation side is the raw / corrupted streams and the first-use check of the harness.
-/
import BiscuitModel.Proofs.Grammar
import BiscuitModel.Proofs.ListOption
import BiscuitModel.Proofs.LexRules

namespace Biscuit.C14
open Biscuit Biscuit.Grammar Biscuit.Printer

/-- Precedence level at which a tree can stand without parentheses:
0 `||`, 1 `&&`, 2 comparison, 3 `+ -`, 4 `* /`, 5 prefix `!`, 6 method call, 7 atom. -/
def level : PExpr → Nat
  | .bin .or _ _ => 0
  | .bin .and _ _ => 1
  | .bin .lt _ _ | .bin .le _ _ | .bin .gt _ _ | .bin .ge _ _ | .bin .eq _ _ => 2
  | .bin .add _ _ | .bin .sub _ _ => 3
  | .bin .mul _ _ | .bin .div _ _ => 4
  | .bin _ _ _ => 8            -- not an infix operator: never produced by the parser
  | .neg _ => 5
  | .method _ _ _ | .length _ => 6
  | .term _ | .paren _ => 7

def isMethodOp : BinOp → Bool
  | .contains | .pfx | .sfx | .regex | .intersection | .union => true
  | _ => false

def AtomTermWF : PTerm → Prop
  | .set _ => False
  | _ => True

def TermWF : PTerm → Prop
  | .set elts => elts ≠ [] ∧ ∀ t ∈ elts, AtomTermWF t
  | _ => True

/-- A tree in the shape the documented grammar produces: left-associative chains, one
comparison at most, `!` applied to a method-level operand, method receivers at method
level, arguments and parenthesised subtrees arbitrary (level 0). -/
def WF : PExpr → Prop
  | .term t => TermWF t
  | .paren e => WF e
  | .neg e => WF e ∧ level e ≥ 6
  | .bin op l r =>
    WF l ∧ WF r ∧ level (.bin op l r) ≤ 4 ∧
    (if level (.bin op l r) = 2 then level l ≥ 3 ∧ level r ≥ 3
     else level l ≥ level (.bin op l r) ∧ level r > level (.bin op l r))
  | .method op recv arg => isMethodOp op = true ∧ WF recv ∧ WF arg ∧ level recv ≥ 6
  | .length recv => WF recv ∧ level recv ≥ 6

/-- Tokens that cannot continue an expression (what may follow one in a rule body). -/
def Stops : List Tok → Prop
  | [] => True
  | .punct ',' :: _ | .punct ';' :: _ | .punct ')' :: _ | .ident "or" :: _ => True
  | _ => False

/-- `WF` is the proof-side `WFx` (`level`, `isMethodOp`, `AtomTermWF`, `TermWF` are `lvl`,
`isMethOp`, `AtomOK`, `TermOK` by unfolding). -/
theorem WF_eq (e : PExpr) : WF e = WFx e := by
  induction e with
  | term t => rfl
  | paren e ih => exact ih
  | neg e ih => exact congrArg (· ∧ _) ih
  | bin op l r ihl ihr => show (WF l ∧ WF r ∧ _) = (WFx l ∧ WFx r ∧ _); rw [ihl, ihr]; rfl
  | method op recv arg ihr iha =>
    show (_ ∧ WF recv ∧ WF arg ∧ _) = (_ ∧ WFx recv ∧ WFx arg ∧ _); rw [ihr, iha]; rfl
  | length recv ih => exact congrArg (· ∧ _) ih

theorem follow_of_Stops {rest : List Tok} (hr : Stops rest) : Follow 0 rest := by
  unfold Stops at hr
  split at hr
  · exact Follow.nil 0
  iterate 4 exact Follow.cons (by decide) _
  exact absurd hr id

/-- The round trip with the fuel bounded in `Grammar.esize` instead of the token count (a signed
literal `-5` is two tokens but one unit). -/
theorem parse_render_partial_size (e : PExpr) (h : WF e) (rest : List Tok) (hr : Stops rest)
    (fuel : Nat) (hf : fuel ≥ 16 * esize e + 16) :
    parseOr fuel (renderToks e ++ rest) = some (e, rest) :=
  parseOr_render_size e ((WF_eq e).mp h) rest (follow_of_Stops hr) fuel (by omega)

/-- **C14 (expressions), token level.** Every well-formed tree, rendered with the minimum
of parentheses, parses back to itself, and the parser stops exactly at the end of the
expression: this is what "structured by the documented precedence and associativity" means.
Signed integer literals (`PTerm.negInt`, rendered `-` digits) are ordinary atoms: `1 - -5`
renders to `1`, `-`, `-`, `5` and reads back as the subtraction of the literal `-5`. -/
theorem parse_render_partial (e : PExpr) (h : WF e) (rest : List Tok) (hr : Stops rest)
    (fuel : Nat) (hf : fuel ≥ 16 * (renderToks e).length + 16) :
    parseOr fuel (renderToks e ++ rest) = some (e, rest) :=
  parse_render_partial_size e h rest hr fuel (by
    have := esize_le_length e ((WF_eq e).mp h); omega)

/-- **C14 (postfix emission).** The operator sequence emitted for the parsed text (`toPostfix`:
`ToExpr`, grammar.go:331-474) is that of the tree. -/
theorem postfix_of_parse (e : PExpr) (h : WF e) (rest : List Tok) (hr : Stops rest)
    (fuel : Nat) (hf : fuel ≥ 16 * (renderToks e).length + 16) :
    (parseOr fuel (renderToks e ++ rest)).map (fun r => toPostfix r.1) = some (toPostfix e) := by
  rw [parse_render_partial e h rest hr fuel hf]; rfl

/-! ### The precedence table, instance by instance (for all atoms `a b c`) -/

def atomTok (t : PTerm) : List Tok := renderTermToks t

theorem parse_small (e : PExpr) (h : WF e) (hs : esize e ≤ 5) :
    parseOr 100 (renderToks e) = some (e, []) := by
  -- `16 * 5 + 16 ≤ 100`
  simpa using parse_render_partial_size e h [] trivial 100 (by omega)

theorem termWF_of_atom {t : PTerm} (h : AtomTermWF t) : TermWF t := termOK_of_atomOK h

theorem mul_over_add (a b c : PTerm) (ha : AtomTermWF a) (hb : AtomTermWF b) (hc : AtomTermWF c) :
    parseOr 100 (atomTok a ++ [.op "+"] ++ atomTok b ++ [.op "*"] ++ atomTok c) =
      some (.bin .add (.term a) (.bin .mul (.term b) (.term c)), []) := by
  simpa [renderToks, binTok, atomTok] using parse_small (.bin .add (.term a) (.bin .mul (.term b) (.term c)))
    (by simp [WF, level, termWF_of_atom ha, termWF_of_atom hb, termWF_of_atom hc])
    (by simp [esize, esize_term_atom ha, esize_term_atom hb, esize_term_atom hc])

theorem sub_left_assoc (a b c : PTerm) (ha : AtomTermWF a) (hb : AtomTermWF b) (hc : AtomTermWF c) :
    parseOr 100 (atomTok a ++ [.op "-"] ++ atomTok b ++ [.op "-"] ++ atomTok c) =
      some (.bin .sub (.bin .sub (.term a) (.term b)) (.term c), []) := by
  simpa [renderToks, binTok, atomTok] using parse_small (.bin .sub (.bin .sub (.term a) (.term b)) (.term c))
    (by simp [WF, level, termWF_of_atom ha, termWF_of_atom hb, termWF_of_atom hc])
    (by simp [esize, esize_term_atom ha, esize_term_atom hb, esize_term_atom hc])

theorem and_over_or (a b c : PTerm) (ha : AtomTermWF a) (hb : AtomTermWF b) (hc : AtomTermWF c) :
    parseOr 100 (atomTok a ++ [.orOp] ++ atomTok b ++ [.andOp] ++ atomTok c) =
      some (.bin .or (.term a) (.bin .and (.term b) (.term c)), []) := by
  simpa [renderToks, binTok, atomTok] using parse_small (.bin .or (.term a) (.bin .and (.term b) (.term c)))
    (by simp [WF, level, termWF_of_atom ha, termWF_of_atom hb, termWF_of_atom hc])
    (by simp [esize, esize_term_atom ha, esize_term_atom hb, esize_term_atom hc])

theorem cmp_over_and (a b c : PTerm) (ha : AtomTermWF a) (hb : AtomTermWF b) (hc : AtomTermWF c) :
    parseOr 100 (atomTok a ++ [.andOp] ++ atomTok b ++ [.op "<"] ++ atomTok c) =
      some (.bin .and (.term a) (.bin .lt (.term b) (.term c)), []) := by
  simpa [renderToks, binTok, atomTok] using parse_small (.bin .and (.term a) (.bin .lt (.term b) (.term c)))
    (by simp [WF, level, termWF_of_atom ha, termWF_of_atom hb, termWF_of_atom hc])
    (by simp [esize, esize_term_atom ha, esize_term_atom hb, esize_term_atom hc])

theorem not_over_mul (a b : PTerm) (ha : AtomTermWF a) (hb : AtomTermWF b) :
    parseOr 100 ([.punct '!'] ++ atomTok a ++ [.op "*"] ++ atomTok b) =
      some (.bin .mul (.neg (.term a)) (.term b), []) := by
  simpa [renderToks, binTok, atomTok] using parse_small (.bin .mul (.neg (.term a)) (.term b))
    (by simp [WF, level, termWF_of_atom ha, termWF_of_atom hb])
    (by simp [esize, esize_term_atom ha, esize_term_atom hb])

theorem method_binds_tightest (a b : PTerm) (ha : AtomTermWF a) (hb : AtomTermWF b) :
    parseOr 100 ([.punct '!'] ++ atomTok a ++ [.dot, .ident "starts_with", .punct '('] ++ atomTok b ++ [.punct ')']) =
      some (.neg (.method .pfx (.term a) (.term b)), []) := by
  simpa [renderToks, methodTok, atomTok] using parse_small (.neg (.method .pfx (.term a) (.term b)))
    (by simp [WF, level, isMethodOp, termWF_of_atom ha, termWF_of_atom hb])
    (by simp [esize, esize_term_atom ha, esize_term_atom hb])

/-- **Chained comparisons are errors.** After one comparison the parser stops at a second
comparison operator, and no continuation of a rule body, check or block accepts it. -/
theorem comparison_nonassoc (a b c : PTerm) (ha : AtomTermWF a) (hb : AtomTermWF b) (hc : AtomTermWF c)
    (op1 op2 : Tok) (h1 : (cmpOfTok op1).isSome) (h2 : (cmpOfTok op2).isSome) (pol : Bool) :
    parseItems 1000 pol ([.keyword "check if"] ++ atomTok a ++ [op1] ++ atomTok b ++ [op2] ++ atomTok c ++ [.punct ';']) = none := by
  have _ := hc   -- kept in the statement; the text is rejected whatever follows the second operator
  -- `chained_cmp_rejected` is stated for the fuel `f + 7`: `1000 = 993 + 7`
  have h := chained_cmp_rejected a b ha hb op1 op2 h1 h2 pol (atomTok c ++ [.punct ';']) 993 (by omega)
  simp only [atomTok, List.append_assoc, List.cons_append, List.nil_append]
  exact h

/-! ### The named errors are errors (conversion level, also inside expressions) -/

theorem unbound_parameter_is_error (ps : Params) (n : String) (h : ps.find? (·.1 == n) = none) :
    denoteTerm ps (.param n) = none := by
  simp [denoteTerm, denoteAtomTerm, h]

/-- …and an error in any operand makes the whole expression an error (no nil term). -/
theorem expr_error_propagates (ps : Params) (e : PExpr) (t : PTerm)
    (hmem : POp.value t ∈ toPostfix e) (h : denoteTerm ps t = none) : denoteExpr ps e = none :=
  List.mapM_eq_none_of_mem hmem (by simp [denoteOp, h])

theorem odd_hex_is_error (ps : Params) (ds : List Char) (h : ds.length % 2 = 1) :
    denoteTerm ps (.bytes ds) = none := by
  simp [denoteTerm, denoteAtomTerm]; omega

theorem variable_in_set_is_error (ps : Params) (n : String) (pre post : List PTerm) :
    denoteTerm ps (.set (pre ++ .var n :: post)) = none := by
  unfold denoteTerm
  cases hm : (pre ++ .var n :: post).mapM (denoteAtomTerm ps) with
  | none => simp [hm]
  | some ts =>
    -- the variable is denoted by a variable, which is no atom
    obtain ⟨y, hy, hxy⟩ := List.exists_mem_of_mapM hm (x := .var n) (by simp)
    cases hxy
    simp [hm, List.mapM_eq_none_of_mem hy (rfl : atomOfTerm _ = none)]

theorem date_without_zone_is_error : unixOfDate "2020-01-01T00:00:00".toList = none := by
  rw [String.toList_ofList]; decide +kernel

theorem date_month_13_is_error : unixOfDate "2020-13-45T99:00:00Z".toList = none := by
  rw [String.toList_ofList]; decide +kernel

/-- `or` denotes alternative queries, in order. -/
theorem or_is_alternatives (ps : Params) (q1 q2 : List PElem) (r1 r2 : DRule)
    (h1 : denoteQuery ps q1 = some r1) (h2 : denoteQuery ps q2 = some r2) :
    denoteItems ps [.check { queries := [q1, q2] }] =
      some { facts := [], rules := [], checks := [{ queries := [r1, r2] }], policies := [] } := by
  simp [denoteItems, List.mapM_cons, h1, h2]

/-! Non-vacuity: one check, end to end from characters (evaluated with `lexC`, the lexer over
character lists of `Proofs/LexRules`). -/

def sampleText : List Char := "check if !$a.starts_with(\"x\") && 1 + 2 * 3 <= ($b - 4) / 2 || $c;".toList

theorem sample_parses :
    (parseBlockText sampleText).bind (denoteItems []) =
      some { facts := [], rules := [], policies := [],
             checks := [{ queries := [{ head := queryHead, body := [], exprs := [[
               .value (.var (strBytes "a")), .value (.const (.atom (.str (strBytes "x")))), .binary .pfx, .unary .negate,
               .value (.const (.atom (.int 1))), .value (.const (.atom (.int 2))), .value (.const (.atom (.int 3))), .binary .mul, .binary .add,
               .value (.var (strBytes "b")), .value (.const (.atom (.int 4))), .binary .sub, .unary .parens,
               .value (.const (.atom (.int 2))), .binary .div, .binary .le, .binary .and,
               .value (.var (strBytes "c")), .binary .or ]] }] }] } := by
  -- `_` unifies with the characters of the literal, which the kernel then does not decode (cf. `lex_lit`)
  have h : sampleText = _ := String.toList_ofList
  rw [parseBlockText_eqC, h]; decide +kernel

theorem chained_text_rejected : parseBlockText "check if 1 < 2 < 3;".toList = none := by
  rw [parseBlockText_eqC, String.toList_ofList]; decide +kernel

end Biscuit.C14
