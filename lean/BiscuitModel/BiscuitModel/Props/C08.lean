/-
Props/C08 — tokens and blocks are immutable values; sibling derivations are independent.

Stated on `Model/Heap`: symbol tables as Go slices over backing arrays with capacity.
`deep = true` is the repaired `SymbolTable.Clone` (copy of the elements); `deep = false`
the pinned one (copy of the slice header, D4). The growth policy `grow` of `append` is
arbitrary (`grow n > n`), so the theorems hold for Go's policy whatever it is.
What the content of a block *means* given its table is C07's `build_then_resolve`.
-/
import BiscuitModel.Proofs.Heap

namespace Biscuit.C08
open Biscuit.Heap

variable {α : Type}

/-- The ownership invariant is established by any state whose live objects own distinct,
allocated arrays, and is preserved by every operation (repaired `Clone`). -/
theorem step_preserves_owned (grow : Nat → Nat) (hg : ∀ n, grow n > n) (pad : α) (st : State α)
    (h : Owned st) (op : Op α) : Owned (step true grow pad st op).1 :=
  (step_ok grow hg pad st h op).owned

/-- **C08 (frame).** With the repaired `Clone`, no operation changes what any live token
reads: its slice header is still the same and the cells it views hold the same values. -/
theorem family_frame (grow : Nat → Nat) (hg : ∀ n, grow n > n) (pad : α) (st : State α)
    (h : Owned st) (op : Op α) (i : Nat) (s : Slice) (hs : st.tokens[i]? = some s) :
    (step true grow pad st op).1.tokens[i]? = some s ∧
    read (step true grow pad st op).1.heap s = read st.heap s :=
  have ok := step_ok grow hg pad st h op
  have hm := List.mem_of_getElem? hs
  ⟨ok.tokens hs, ok.frame s (h.valid_token hm).1 (h.token_ne_target hm op)⟩

/-- Likewise no operation changes what any OTHER live builder holds. -/
theorem builders_frame (grow : Nat → Nat) (hg : ∀ n, grow n > n) (pad : α) (st : State α)
    (h : Owned st) (op : Op α) (j : Nat) (b : Slice × Nat) (hb : st.builders[j]? = some b)
    (hne : ∀ x, op ≠ .addSymbol j x) :
    (step true grow pad st op).1.builders[j]? = some b ∧
    read (step true grow pad st op).1.heap b.1 = read st.heap b.1 :=
  have ok := step_ok grow hg pad st h op
  ⟨ok.builders hb hne,
    ok.frame b.1 (h.valid_builder (List.mem_of_getElem? hb)).1 (h.builder_ne_target hb hne)⟩

/-- Lifted to every history: after any sequence of operations every token that was live
before still reads what it read before. -/
theorem family_frame_history (grow : Nat → Nat) (hg : ∀ n, grow n > n) (pad : α) (st : State α)
    (h : Owned st) (ops : List (Op α)) (i : Nat) (s : Slice) (hs : st.tokens[i]? = some s) :
    (run true grow pad st ops).tokens[i]? = some s ∧
    read (run true grow pad st ops).heap s = read st.heap s :=
  (run_induction true grow pad
    (fun st' => Owned st' ∧ st'.tokens[i]? = some s ∧ read st'.heap s = read st.heap s)
    (fun st' op ⟨o, ht, hr⟩ =>
      have f := family_frame grow hg pad st' o op i s ht
      ⟨step_preserves_owned grow hg pad st' o op, f.1, f.2.trans hr⟩) ops st ⟨h, hs, rfl⟩).2

/-- What builder `j` holds, as a value. On these views the repaired machine acts on values: a
step leaves every other builder's value alone, `createBlock` adds a builder holding the token's
value, `addSymbol` appends to the acting builder's. -/
def bview (st : State α) (j : Nat) : Option (List α) := st.builders[j]?.map fun b => read st.heap b.1

theorem bview_frame (grow : Nat → Nat) (hg : ∀ n, grow n > n) (pad : α) {st : State α} (h : Owned st)
    {op : Op α} {j : Nat} (hne : ∀ x, op ≠ .addSymbol j x) {l : List α} (hv : bview st j = some l) :
    bview (step true grow pad st op).1 j = some l := by
  obtain ⟨b, hb, rfl⟩ := Option.map_eq_some_iff.mp hv
  have f := builders_frame grow hg pad st h op j b hb hne
  simp only [bview, f.1, Option.map_some, f.2]

theorem bview_createBlock (grow : Nat → Nat) (pad : α) {st : State α} {t : Nat} {s : Slice}
    (hs : st.tokens[t]? = some s) :
    (step true grow pad st (.createBlock t)).1.builders.length = st.builders.length + 1 ∧
    bview (step true grow pad st (.createBlock t)).1 st.builders.length = some (read st.heap s) := by
  simp only [step, hs, cloneDeep, if_true, bview, List.length_append, List.length_singleton,
    List.getElem?_append_right (Nat.le_refl _), Nat.sub_self, List.getElem?_cons_zero, Option.map_some,
    cloneDeep_read, and_self]

theorem bview_addSymbol (grow : Nat → Nat) (hg : ∀ n, grow n > n) (pad : α) {st : State α}
    (h : Owned st) {j : Nat} {l : List α} (hv : bview st j = some l) (x : α) :
    bview (step true grow pad st (.addSymbol j x)).1 j = some (l ++ [x]) := by
  obtain ⟨b, hb, rfl⟩ := Option.map_eq_some_iff.mp hv
  simp only [step, hb, bview, List.getElem?_set_self (List.getElem?_eq_some_iff.mp hb).1, Option.map_some,
    (append_spec grow hg pad (h.valid_builder (List.mem_of_getElem? hb)) x []).read_self]

/-- **C08, siblings.** Two builders created from the same token, each adding its own symbol,
each hold exactly the parent's symbols followed by their own. -/
theorem siblings_independent (grow : Nat → Nat) (hg : ∀ n, grow n > n) (pad : α) (st : State α)
    (h : Owned st) (t : Nat) (s : Slice) (hs : st.tokens[t]? = some s) (x y : α) :
    let n := st.builders.length
    let st' := run true grow pad st [.createBlock t, .createBlock t, .addSymbol n x, .addSymbol (n + 1) y]
    (∃ b1, st'.builders[n]? = some b1 ∧ read st'.heap b1.1 = read st.heap s ++ [x]) ∧
    (∃ b2, st'.builders[n + 1]? = some b2 ∧ read st'.heap b2.1 = read st.heap s ++ [y]) := by
  intro n st'
  -- it suffices to know the two builders' values at the end
  suffices hv : bview st' n = some (read st.heap s ++ [x]) ∧ bview st' (n + 1) = some (read st.heap s ++ [y]) by
    obtain ⟨b1, h1, r1⟩ := Option.map_eq_some_iff.mp hv.1
    obtain ⟨b2, h2, r2⟩ := Option.map_eq_some_iff.mp hv.2
    exact ⟨⟨b1, h1, r1⟩, ⟨b2, h2, r2⟩⟩
  -- follow them through the four steps
  have o1 := step_preserves_owned grow hg pad st h (.createBlock t)
  have ⟨l1, v1⟩ := bview_createBlock grow pad hs
  have f1 := family_frame grow hg pad st h (.createBlock t) t s hs
  have o2 := step_preserves_owned grow hg pad _ o1 (.createBlock t)
  have ⟨_, v2⟩ := bview_createBlock grow pad f1.1
  rw [l1, f1.2] at v2
  have v1 := bview_frame grow hg pad o1 (op := .createBlock t) (fun _ he => nomatch he) v1
  have o3 := step_preserves_owned grow hg pad _ o2 (.addSymbol n x)
  have v2 := bview_frame grow hg pad o2 (op := .addSymbol n x) (fun _ he => by injection he; omega) v2
  have v1 := bview_addSymbol grow hg pad o2 v1 x
  exact ⟨bview_frame grow hg pad o3 (op := .addSymbol (n + 1) y) (fun _ he => by injection he; omega) v1,
    bview_addSymbol grow hg pad o3 v2 y⟩

/-- D4, pinned: with the header copy and spare capacity the second sibling's symbol
overwrites the first's. A table of 3 symbols in an array of capacity 4; two builders;
"foo" then "bar": the first builder now reads "bar". -/
def d4State : State String :=
  { heap := [["a", "b", "c", "_"]], tokens := [{ arr := 0, len := 3 }], builders := [] }
def d4Ops : List (Op String) := [.createBlock 0, .createBlock 0, .addSymbol 0 "foo", .addSymbol 1 "bar"]

theorem header_clone_breaks_siblings :
    let st' := run false (fun n => 2 * n + 1) "_" d4State d4Ops
    (st'.builders[0]?.map fun b => read st'.heap b.1) = some ["a", "b", "c", "bar"] := by
  rfl

/-- …whereas the repaired clone keeps them apart on the same history. -/
theorem deep_clone_keeps_siblings :
    let st' := run true (fun n => 2 * n + 1) "_" d4State d4Ops
    (st'.builders[0]?.map fun b => read st'.heap b.1) = some ["a", "b", "c", "foo"] ∧
    (st'.builders[1]?.map fun b => read st'.heap b.1) = some ["a", "b", "c", "bar"] := by
  exact ⟨rfl, rfl⟩

/-- Non-vacuity: the D4 start state satisfies the ownership invariant. -/
theorem d4State_owned : Owned d4State := by
  simp [Owned, d4State, cap]

end Biscuit.C08
