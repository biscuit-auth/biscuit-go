/-
Props/C18Gate — the declared-symbols gate of `LoadPolicies` (D26, fix 9b20311).

A snapshot (`SerializePolicies` / `LoadPolicies`, authorizer.go) carries its own symbol table
and content written with symbol INDEXES. Before 9b20311 `LoadPolicies` accepted content that
points outside every table (D26): such an index prints as "<invalid symbol N>" and would take
the meaning of whatever string lands there later. Since the fix `loadPoliciesV2` builds the
table it is going to use (`baseSymbols.Clone()`, for an authorizer the default table, `Extend`ed
by the snapshot's table), puts the snapshot's facts, rules, checks and policy queries into a
scratch `Block` and hands it to `checkDeclaredSymbols` (builder.go), the function `Unmarshal`,
`New` and `Append` apply to token blocks (Props/C02Gate, Props/C02Wire). Nothing of the
authorizer is changed before the answer.

Model: `snapshotDeclared` (Proofs/SnapshotGate) is that check, written with the gate
predicates of Model/Unmarshal (`predDeclared`, `ruleDeclared`, `extendTable`);
`snapshotDeclared_as_block` says it IS `blockDeclared` of the scratch block.
`resolveSnapshot` (Model/Symbols) is the model's independent reading of the format.

About the table. `resolveSnapshot` reads indexes through `m.symbols` as saved, the gate
through `extendTable [] m.symbols` as `Extend` rebuilds it. They differ exactly when the
saved table holds a default symbol or a string twice (`Extend` skips those, and every later
entry moves down). `resolveSnapshot` refuses such tables outright (`freshSymbols`), so the
model does not say what such a snapshot means; `shifted_table_*` below show the two
readings of the same index and that the gate follows the table the code will really use.
-/
import BiscuitModel.Proofs.SnapshotGate
import BiscuitModel.Props.C18

namespace Biscuit.C18Gate
open Biscuit Biscuit.Wire

/-- The scratch `Block` of `loadPoliciesV2`: the snapshot's facts and rules, its checks,
and one more check per policy holding the policy's queries. (Symbols, context and version
of the scratch block are not looked at by `checkDeclaredSymbols`.) -/
def scratchBlock (m : PoliciesMsg) : BlockMsg :=
  { symbols := [], context := none, version := none, facts := m.facts, rules := m.rules,
    checks := m.checks ++ m.policies.map fun p => { queries := p.queries } }

/-- `snapshotDeclared` is `blockDeclared` (the model of `checkDeclaredSymbols`) on the scratch
block, over the default table extended by the snapshot's table. -/
theorem snapshotDeclared_as_block (m : PoliciesMsg) :
    snapshotDeclared m = blockDeclared (extendTable [] m.symbols) (scratchBlock m) := by
  simp only [snapshotDeclared, snapshotTable, blockDeclared, scratchBlock, List.all_append, List.all_map,
    Bool.and_assoc]
  rfl

/-- Unfolded: every fact, every rule, every check query and every policy query. -/
theorem snapshotDeclared_iff (m : PoliciesMsg) :
    snapshotDeclared m = true ↔
      (∀ f ∈ m.facts, predDeclared (extendTable [] m.symbols) f = true) ∧
      (∀ r ∈ m.rules, ruleDeclared (extendTable [] m.symbols) r = true) ∧
      (∀ c ∈ m.checks, ∀ q ∈ c.queries, ruleDeclared (extendTable [] m.symbols) q = true) ∧
      (∀ p ∈ m.policies, ∀ q ∈ p.queries, ruleDeclared (extendTable [] m.symbols) q = true) := by
  simp only [snapshotDeclared, snapshotTable, Bool.and_eq_true, List.all_eq_true, and_assoc]

/-- **The reading accepts exactly: right shape and inside the gate.** `snapshotShapeOK`
collects the conditions that do not depend on any index: version 3 (`LoadPolicies`'
version switch), a saved table that `Extend` adopts unchanged (the model's domain), sets
without variables (converters_v2.go), ground facts, operator codes and policy kinds of the
published enums. Given those, a snapshot has a reading if and only if
`checkDeclaredSymbols` lets it through. -/
theorem resolveSnapshot_iff (m : PoliciesMsg) :
    resolveSnapshot m ≠ none ↔ snapshotShapeOK m = true ∧ snapshotDeclared m = true := by
  rw [← Bool.and_eq_true_iff, ← resolveSnapshot_isSome, Option.isSome_iff_ne_none]

/-- **The gate refuses nothing that has a meaning**: `LoadPolicies` since 9b20311 still loads
every snapshot the model can read. No side condition: the reading accepts only tables that
`Extend` adopts unchanged, so both sides speak of the same table. -/
theorem resolveSnapshot_some_declared (m : PoliciesMsg) (snap : Snapshot)
    (h : resolveSnapshot m = some snap) : snapshotDeclared m = true :=
  ((resolveSnapshot_iff m).mp (h ▸ Option.some_ne_none snap)).2

/-- Contrapositive: what the gate refuses has no reading. An index that no table declares
(D26) is an error of the format, not a string. -/
theorem undeclared_has_no_reading (m : PoliciesMsg) (h : snapshotDeclared m = false) :
    resolveSnapshot m = none := by
  cases hr : resolveSnapshot m with
  | none => rfl
  | some snap => rw [resolveSnapshot_some_declared m snap hr] at h; cases h

theorem resolveSnapshot_some_shape (m : PoliciesMsg) (snap : Snapshot)
    (h : resolveSnapshot m = some snap) : snapshotShapeOK m = true :=
  ((resolveSnapshot_iff m).mp (h ▸ Option.some_ne_none snap)).1

/-- What the reading accepts is read through the table the code builds: there `Extend`
adopts the saved table as it is. -/
theorem resolveSnapshot_some_table (m : PoliciesMsg) (snap : Snapshot)
    (h : resolveSnapshot m = some snap) : extendTable [] m.symbols = m.symbols := by
  have hs := resolveSnapshot_some_shape m snap h
  simp only [snapshotShapeOK, Bool.and_eq_true] at hs
  obtain ⟨⟨⟨⟨⟨-, hfresh⟩, -⟩, -⟩, -⟩, -⟩ := hs
  exact snapshotTable_of_fresh m hfresh

theorem declared_shape_resolves (m : PoliciesMsg) (hs : snapshotShapeOK m = true)
    (hd : snapshotDeclared m = true) : ∃ snap, resolveSnapshot m = some snap :=
  Option.ne_none_iff_exists'.mp ((resolveSnapshot_iff m).mpr ⟨hs, hd⟩)

/-- Inside the shape a refusal of the reading is a refusal of the gate: the only way a
well-shaped snapshot fails to have a meaning is an undeclared index. -/
theorem shape_refused_iff_undeclared (m : PoliciesMsg) (hs : snapshotShapeOK m = true) :
    resolveSnapshot m = none ↔ snapshotDeclared m = false := by
  constructor
  · intro h
    cases hd : snapshotDeclared m with
    | false => rfl
    | true => exact absurd h ((resolveSnapshot_iff m).mpr ⟨hs, hd⟩)
  · exact undeclared_has_no_reading m

/-- **For all contents**: what `SerializePolicies` writes passes `checkDeclaredSymbols` when
`LoadPolicies` reads it back. (`C18.snapshot_build_then_resolve` says the reading gives back the
content; this says the gate is silent.) -/
theorem built_snapshot_declared (snap : Snapshot) : snapshotDeclared (buildSnapshotMsg snap) = true :=
  resolveSnapshot_some_declared _ snap (C18.snapshot_build_then_resolve snap)

/-- … and have the right shape; in particular the table `SerializePolicies` writes holds no
default symbol and no string twice, so `Extend` rebuilds exactly the writer's table. -/
theorem built_snapshot_shape (snap : Snapshot) : snapshotShapeOK (buildSnapshotMsg snap) = true :=
  resolveSnapshot_some_shape _ snap (C18.snapshot_build_then_resolve snap)

theorem built_snapshot_table (snap : Snapshot) :
    extendTable [] (buildSnapshotMsg snap).symbols = (buildSnapshotMsg snap).symbols :=
  resolveSnapshot_some_table _ snap (C18.snapshot_build_then_resolve snap)

def emptyMsg : PoliciesMsg :=
  { symbols := [], version := some 3, facts := [], rules := [], checks := [], policies := [] }

def qOf (body : List IPred) : IRule := { head := { name := 27, terms := [] }, body := body, exprs := [] }

/-- D26, first witness: version 3, no symbols, one fact whose predicate NAME is index 1024,
the first index of a table that is empty. -/
def d26Name : PoliciesMsg := { emptyMsg with facts := [{ name := 1024, terms := [] }] }

/-- D26, second witness: a string term far outside, 2^63 + 5 (the field is a uint64). -/
def d26Far : PoliciesMsg :=
  { emptyMsg with facts := [{ name := 0, terms := [.atom (.string (2^63 + 5))] }] }

/-- D26, third witness: the first index after a one-entry table. -/
def d26Next : PoliciesMsg :=
  { emptyMsg with symbols := [strBytes "alice"], facts := [{ name := 1025, terms := [.atom (.string 1024)] }] }

/-- An index between the default table (28 entries) and 1024. -/
def d26Gap : PoliciesMsg := { emptyMsg with facts := [{ name := 28, terms := [] }] }

/-- The other places an index can sit: a variable number of a rule, an element of a set,
an operand of an expression, a check query, a policy query. -/
def d26Var : PoliciesMsg :=
  { emptyMsg with rules := [{ head := { name := 4, terms := [.atom (.variable 1024)] },
                              body := [{ name := 10, terms := [.atom (.variable 1024)] }], exprs := [] }] }
def d26Set : PoliciesMsg :=
  { emptyMsg with symbols := [strBytes "alice"],
                  facts := [{ name := 10, terms := [.set [.string 1024, .string 1025]] }] }
def d26Expr : PoliciesMsg :=
  { emptyMsg with
    checks := [{ queries := [{ head := { name := 27, terms := [] },
                               body := [{ name := 10, terms := [.atom (.integer 1)] }],
                               exprs := [[.value (.atom (.string 1024)), .unary 2]] }] }] }
def d26Check : PoliciesMsg :=
  { emptyMsg with checks := [{ queries := [qOf [{ name := 1024, terms := [] }]] }] }
def d26Policy : PoliciesMsg :=
  { emptyMsg with policies := [{ kind := 0, queries := [qOf [{ name := 10, terms := [.atom (.string 1024)] }]] }] }

/-- **D26**: each of these is refused by the gate — since 9b20311 `LoadPolicies` answers
`ErrUndeclaredSymbol` — and has no reading. -/
theorem d26_gate_refuses :
    snapshotDeclared d26Name = false ∧ snapshotDeclared d26Far = false ∧
    snapshotDeclared d26Next = false ∧ snapshotDeclared d26Gap = false ∧
    snapshotDeclared d26Var = false ∧ snapshotDeclared d26Set = false ∧
    snapshotDeclared d26Expr = false ∧ snapshotDeclared d26Check = false ∧
    snapshotDeclared d26Policy = false := by decide +kernel

theorem d26_no_reading :
    resolveSnapshot d26Name = none ∧ resolveSnapshot d26Far = none ∧
    resolveSnapshot d26Next = none ∧ resolveSnapshot d26Gap = none ∧
    resolveSnapshot d26Var = none ∧ resolveSnapshot d26Set = none ∧
    resolveSnapshot d26Expr = none ∧ resolveSnapshot d26Check = none ∧
    resolveSnapshot d26Policy = none := by decide +kernel

/-- The witnesses have the right shape: the undeclared index is their only fault. -/
theorem d26_shape_ok :
    snapshotShapeOK d26Name = true ∧ snapshotShapeOK d26Far = true ∧
    snapshotShapeOK d26Next = true ∧ snapshotShapeOK d26Gap = true ∧
    snapshotShapeOK d26Var = true ∧ snapshotShapeOK d26Set = true ∧
    snapshotShapeOK d26Expr = true ∧ snapshotShapeOK d26Check = true ∧
    snapshotShapeOK d26Policy = true := by decide +kernel

/-- Declaring the string repairs the third witness: same content, a two-entry table. -/
theorem d26Next_repaired :
    snapshotDeclared { d26Next with symbols := [strBytes "alice", strBytes "knows"] } = true ∧
    resolveSnapshot { d26Next with symbols := [strBytes "alice", strBytes "knows"] } =
      some { facts := [{ name := strBytes "knows", args := [.atom (.str (strBytes "alice"))] }],
             rules := [], checks := [], policies := [] } := by decide +kernel

/-! An honest snapshot: a fact with a fresh string, a rule with a variable, a set and an
expression, a check, an allow and a deny policy. -/

def sAlice : Bytes := strBytes "alice"
def vU : Bytes := strBytes "u"

/-- `user("alice")` -/
def fUser : DFact := { name := strBytes "user", args := [.atom (.str sAlice)] }

/-- `right($u, "read") <- user($u), !!["alice", "bob"].contains($u)` (operands in the
code's postfix order). -/
def rRight : DRule :=
  { head := { name := strBytes "right", terms := [.var vU, .const (.atom (.str (strBytes "read")))] },
    body := [{ name := strBytes "user", terms := [.var vU] }],
    exprs := [[.value (.var vU), .value (.const (.set [.str sAlice, .str (strBytes "bob")])),
               .binary .contains, .unary .negate, .unary .negate]] }

/-- `right("alice", "read")` as a query. -/
def qRight : DRule :=
  { head := { name := strBytes "query", terms := [] },
    body := [{ name := strBytes "right",
               terms := [.const (.atom (.str sAlice)), .const (.atom (.str (strBytes "read")))] }],
    exprs := [] }

/-- `user($u)` as a query. -/
def qAny : DRule :=
  { head := { name := strBytes "query", terms := [] },
    body := [{ name := strBytes "user", terms := [.var vU] }], exprs := [] }

def snapH : Snapshot :=
  { facts := [fUser], rules := [rRight], checks := [{ queries := [qRight] }],
    policies := [{ kind := .allow, queries := [qRight] }, { kind := .deny, queries := [qAny] }] }

def iqRight : IRule :=
  qOf [{ name := 4, terms := [.atom (.string 1024), .atom (.string 0)] }]

/-- The message on the wire: table `["alice", "u", "bob"]`; `user` = 10, `right` = 4,
`read` = 0, `query` = 27 are default symbols. -/
def msgH : PoliciesMsg :=
  { symbols := [sAlice, vU, strBytes "bob"],
    version := some 3,
    facts := [{ name := 10, terms := [.atom (.string 1024)] }],
    rules := [{ head := { name := 4, terms := [.atom (.variable 1025), .atom (.string 0)] },
                body := [{ name := 10, terms := [.atom (.variable 1025)] }],
                exprs := [[.value (.atom (.variable 1025)), .value (.set [.string 1024, .string 1026]),
                           .binary 5, .unary 0, .unary 0]] }],
    checks := [{ queries := [iqRight] }],
    policies := [{ kind := 0, queries := [iqRight] },
                 { kind := 1, queries := [qOf [{ name := 10, terms := [.atom (.variable 1025)] }]] }] }

/-- It is what `SerializePolicies` writes for that content … -/
theorem honest_is_built : buildSnapshotMsg snapH = msgH := by decide +kernel

/-- … the gate lets it through, it has the right shape, and it reads back as the content. -/
theorem honest_accepted :
    snapshotDeclared msgH = true ∧ snapshotShapeOK msgH = true ∧ resolveSnapshot msgH = some snapH := by
  decide +kernel

/-- The gate is sharp on it: with the last table entry removed ("bob", used once inside a
set of an expression) the same content is refused by both. -/
theorem honest_minus_one_symbol :
    snapshotDeclared { msgH with symbols := [sAlice, vU] } = false ∧
    resolveSnapshot { msgH with symbols := [sAlice, vU] } = none := by decide +kernel

/-! The two tables. A saved table with a default symbol ("read") in front: the saved list
has "x" at 1025, the table `Extend` builds has it at 1024 and nothing at 1025. -/

def shiftedTable : List Bytes := [strBytes "read", strBytes "x"]

theorem shifted_table_differs :
    extendTable [] shiftedTable = [strBytes "x"] ∧
    symStr shiftedTable 1025 = some (strBytes "x") ∧
    symStr (extendTable [] shiftedTable) 1025 = none ∧
    symStr (extendTable [] shiftedTable) 1024 = some (strBytes "x") := by decide +kernel

/-- Content written against the saved list (name 1025): the gate, which follows the table
the authorizer will really hold, refuses it; the model's reading refuses the table. -/
theorem shifted_table_refused :
    snapshotDeclared { emptyMsg with symbols := shiftedTable, facts := [{ name := 1025, terms := [] }] } = false ∧
    resolveSnapshot { emptyMsg with symbols := shiftedTable, facts := [{ name := 1025, terms := [] }] } = none := by
  decide +kernel

/-- Content written against the table `Extend` builds (name 1024): the gate lets it
through — the code loads it —, while the model gives no reading because it refuses the
table as such (`snapshotShapeOK` fails on `freshSymbols`, not on an index). This is the one
place where the gate accepts and `resolveSnapshot` does not: outside the model's domain,
and the reason `resolveSnapshot_iff` carries `snapshotShapeOK`. The same for a repeat. -/
theorem shifted_table_outside_model :
    snapshotDeclared { emptyMsg with symbols := shiftedTable, facts := [{ name := 1024, terms := [] }] } = true ∧
    snapshotShapeOK { emptyMsg with symbols := shiftedTable, facts := [{ name := 1024, terms := [] }] } = false ∧
    resolveSnapshot { emptyMsg with symbols := shiftedTable, facts := [{ name := 1024, terms := [] }] } = none ∧
    extendTable [] [strBytes "x", strBytes "x", strBytes "y"] = [strBytes "x", strBytes "y"] ∧
    freshSymbols [] [strBytes "x", strBytes "x", strBytes "y"] = false := by decide +kernel

/-- The shape conditions are independent of the gate: declared everywhere, yet no reading —
an unknown policy kind, an unknown operator code, a variable in a fact, a variable inside a
set, another version. -/
theorem shape_faults_pass_gate :
    (snapshotDeclared { msgH with policies := [{ kind := 2, queries := [iqRight] }] } = true ∧
     resolveSnapshot { msgH with policies := [{ kind := 2, queries := [iqRight] }] } = none) ∧
    (snapshotDeclared { msgH with checks := [{ queries := [{ iqRight with exprs := [[.binary 17]] }] }] } = true ∧
     resolveSnapshot { msgH with checks := [{ queries := [{ iqRight with exprs := [[.binary 17]] }] }] } = none) ∧
    (snapshotDeclared { msgH with facts := [{ name := 10, terms := [.atom (.variable 1025)] }] } = true ∧
     resolveSnapshot { msgH with facts := [{ name := 10, terms := [.atom (.variable 1025)] }] } = none) ∧
    (snapshotDeclared { msgH with facts := [{ name := 10, terms := [.set [.variable 1025]] }] } = true ∧
     resolveSnapshot { msgH with facts := [{ name := 10, terms := [.set [.variable 1025]] }] } = none) ∧
    (snapshotDeclared { msgH with version := some 4 } = true ∧
     resolveSnapshot { msgH with version := some 4 } = none) := by decide +kernel

end Biscuit.C18Gate

#print axioms Biscuit.C18Gate.snapshotDeclared_as_block
#print axioms Biscuit.C18Gate.snapshotDeclared_iff
#print axioms Biscuit.C18Gate.resolveSnapshot_some_declared
#print axioms Biscuit.C18Gate.undeclared_has_no_reading
#print axioms Biscuit.C18Gate.resolveSnapshot_some_shape
#print axioms Biscuit.C18Gate.resolveSnapshot_some_table
#print axioms Biscuit.C18Gate.resolveSnapshot_iff
#print axioms Biscuit.C18Gate.declared_shape_resolves
#print axioms Biscuit.C18Gate.shape_refused_iff_undeclared
#print axioms Biscuit.C18Gate.built_snapshot_declared
#print axioms Biscuit.C18Gate.built_snapshot_shape
#print axioms Biscuit.C18Gate.built_snapshot_table
#print axioms Biscuit.C18Gate.d26_gate_refuses
#print axioms Biscuit.C18Gate.d26_no_reading
#print axioms Biscuit.C18Gate.d26_shape_ok
#print axioms Biscuit.C18Gate.d26Next_repaired
#print axioms Biscuit.C18Gate.honest_is_built
#print axioms Biscuit.C18Gate.honest_accepted
#print axioms Biscuit.C18Gate.honest_minus_one_symbol
#print axioms Biscuit.C18Gate.shifted_table_differs
#print axioms Biscuit.C18Gate.shifted_table_refused
#print axioms Biscuit.C18Gate.shifted_table_outside_model
#print axioms Biscuit.C18Gate.shape_faults_pass_gate
#print axioms Biscuit.resolveSnapshot_isSome
#print axioms Biscuit.extendTable_of_fresh
