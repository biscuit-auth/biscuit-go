/-
Props/C02Gate — the declared-symbols gate never refuses the library's own tokens.

`New`, `Append` and `Unmarshal` apply `checkDeclaredSymbols` (builder.go; model
`blocksDeclared`, Model/Unmarshal). Props/C02Wire shows what the gate buys (attenuation can
only restrict, on the wire). This file shows what it does not cost: the check never fires on
blocks built by `Builder` / `BlockBuilder` (`buildBlockMsg`, `buildBlockMsgs`, Model/Symbols)
over the same table — for all contents and all base tables, duplicates and default strings in
the base table included.

Why: every index `Insert` hands out reads back as the string in the table `Insert` leaves
(`symInsert_symStr`) and in every table grown from it; variable names are interned through the
same `Insert`. So a built block resolves back to its content in the builder's final table
(`buildBlockMsg_resolves`), and what resolves is declared (`resolveBlock_isSome`). The symbols
a block declares (`SplitOff`) were all new when they were appended, so `Extend` on the reading
side adds every one of them back, in order, and rebuilds the table the builder ended with
(`buildBlockMsg_extend`).

The other side (finding D24): a block built over a LONGER table than the one `New` is given is
outside the gate (`built_over_longer_table_refused`). With both tests of `New` / `Append`
(`gateAnswer`: `IsDisjoint`, then the declared-symbols rule) a block built over the table it is
handed in with is always answered `.ok` (`gateAnswer_built`), and whatever the two let through
is inside the C02 wire theorem (`gateAnswer_ok_attenuation`).
-/
import BiscuitModel.Proofs.GateBuilder
import BiscuitModel.Props.C02Wire

namespace Biscuit.C02Gate
open Biscuit Wire

/-- Every index handed out by `SymbolTable.Insert` is declared in the table it leaves. -/
theorem symInsert_declared (t : SymTable) (s : Bytes) :
    symDeclared (symInsert t s).1 (symInsert t s).2 = true := by
  rw [symDeclared, symInsert_symStr]; rfl

/-- `Insert` only appends, so a declared index stays declared. -/
theorem symInsert_keeps_declared (t : SymTable) (s : Bytes) (i : Nat) (h : symDeclared t i = true) :
    symDeclared (symInsert t s).1 i = true := by
  obtain ⟨ext, he⟩ := (growsTo_symInsert t s).prefix
  rw [he]; exact symDeclared_mono t ext i h

/-- What the reader's `Extend` makes of the symbols a built block declares is exactly the
table the builder ended with. No condition on `start`: the strings `Insert` appended were
neither default symbols nor in the table at that moment, so `Extend` skips none. -/
theorem buildBlockMsg_extend (start : SymTable) (c : BlockContent) :
    extendTable start (buildBlockMsg start c).2.symbols = (buildBlockMsg start c).1 :=
  (buildBlockMsg_growsTo start c).extend_drop

/-- The builder's table is the starting table plus the declared symbols. -/
theorem buildBlockMsg_table (start : SymTable) (c : BlockContent) :
    (buildBlockMsg start c).1 = start ++ (buildBlockMsg start c).2.symbols :=
  Biscuit.buildBlockMsg_table start c

/-- One built block is inside the gate, in the builder's final table. -/
theorem buildBlockMsg_declared (start : SymTable) (c : BlockContent) :
    blockDeclared (buildBlockMsg start c).1 (buildBlockMsg start c).2 = true :=
  (buildBlockMsg_declared_shape start c).1

/-- The same in the shape `blocksDeclared` uses: the table is first `Extend`ed with the
block's own symbols. This is `New(…, start, …)` / `Append` checking a block that
`NewBlockBuilder(start)` / `CreateBlock()` built: `checkDeclaredSymbols` does not fire. -/
theorem buildBlockMsg_declared' (start : SymTable) (c : BlockContent) :
    blockDeclared (extendTable start (buildBlockMsg start c).2.symbols) (buildBlockMsg start c).2 = true := by
  rw [buildBlockMsg_extend]; exact buildBlockMsg_declared start c

/-- `TableOK` (no duplicate, no default string) is not needed above; it is kept by the
builder, as Props/C07 has it. -/
theorem buildBlockMsg_tableOK (start : SymTable) (h : TableOK start) (c : BlockContent) :
    TableOK (buildBlockMsg start c).1 :=
  (buildBlockMsg_growsTo start c).tableOK h

/-- **The gate never refuses what the builders produce**: authority block built over
`base`, every further block built over the table its predecessors left — the check that
`New`, `Append` and `Unmarshal` (with `Unmarshaler.Symbols = base`) apply passes, for every
content and every base table. -/
theorem buildBlockMsgs_declared (base : SymTable) (cs : List BlockContent) :
    blocksDeclared base (buildBlockMsgs base cs) = true := by
  induction cs generalizing base with
  | nil => rfl
  | cons c cs ih =>
    rw [buildBlockMsgs_cons, blocksDeclared_cons, buildBlockMsg_extend, buildBlockMsg_declared, ih]
    rfl

/-- The same with the (unused) hypothesis that the base table is one the library maintains. -/
theorem buildBlockMsgs_declared_of_tableOK (base : SymTable) (_hb : TableOK base) (cs : List BlockContent) :
    blocksDeclared base (buildBlockMsgs base cs) = true :=
  buildBlockMsgs_declared base cs

/-- `Append`: the parent's blocks were built from `cs`, the new block from `c` over the
table they left. The appended token is inside the gate as well. -/
theorem append_built_declared (base : SymTable) (cs : List BlockContent) (c : BlockContent) :
    blocksDeclared base (buildBlockMsgs base (cs ++ [c])) = true :=
  buildBlockMsgs_declared base (cs ++ [c])

/-- The hypothesis `blocksDeclaredV [] msgs = true` of `C02Wire.wire_attenuation_monotone`
holds for every token the builders make. -/
theorem built_tokens_inside_wire_theorem (cs : List BlockContent) :
    blocksDeclaredV [] (buildBlockMsgs [] cs) = true := by
  rw [C02Wire.blocksDeclaredV_eq]; exact buildBlockMsgs_declared [] cs

/-- C02 at the wire level for every built token: whatever block message `b` is appended
(built by the library or not, with any symbols), the earlier blocks resolve as before and
an accepted T+B means an accepted T. -/
theorem built_token_attenuation_monotone (cfg : EvalCfg) (p : Bool) (cs : List BlockContent) (b : BlockMsg)
    (s : AuthState) (a : Block) (rest : List Block) (bB : Block)
    (hTB : resolveTokenL p (buildBlockMsgs [] cs ++ [b]) = .ok (a :: rest ++ [bB])) :
    resolveTokenL p (buildBlockMsgs [] cs) = .ok (a :: rest) ∧
    ((authorize cfg { authority := a, blocks := rest ++ [bB] } s).2 = .ok →
     (authorize cfg { authority := a, blocks := rest } s).2 = .ok) :=
  C02Wire.wire_attenuation_monotone cfg p (buildBlockMsgs [] cs) b s
    (built_tokens_inside_wire_theorem cs) a rest bB hTB

/-! ## `Unmarshal` does not refuse honest tokens

`e` is any envelope whose signed blocks carry, in order, the encodings of the built block
messages. The side conditions are those of the round trips: the 32 / 64 byte
sizes `Unmarshal` asks of keys and signatures (true of Ed25519), `BlockWF` of every
message (C07: sizes far below the format's limits) and an envelope of less than 2^64
bytes with a 32-bit root key id (Proofs/WireEnvelope). -/

theorem built_blocks_kinds (base : SymTable) (cs : List BlockContent) :
    ∀ m ∈ buildBlockMsgs base cs, versionOk m.version = true ∧ blockKindsValid m = true := by
  intro m hm
  obtain ⟨start, c, rfl⟩ := buildBlockMsgs_mem cs base m hm
  exact ⟨(sym_version_gate _).mpr rfl, blockKinds_of_shape _ (buildBlockMsg_declared_shape start c).2⟩

/-- **`Serialize` then `Unmarshal`** (with the base table the token was built over) of a
built token is not refused: not by the envelope decoder, not by the size, version and
operator gates, and not by `checkDeclaredSymbols`. What comes out is the envelope and the
built block messages. -/
theorem unmarshalFrom_accepts_built (base : SymTable) (cs : List BlockContent) (e : BiscuitMsg)
    (hblocks : (e.authority :: e.blocks).map (·.block) = (buildBlockMsgs base cs).map encodeBlock)
    (hsize : ∀ sb ∈ e.authority :: e.blocks, sb.nextKey.key.length = 32 ∧ sb.signature.length = 64)
    (hwf : ∀ m ∈ buildBlockMsgs base cs, BlockWF m)
    (hid : ∀ i, e.rootKeyId = some i → i < 2^32)
    (halg : ∀ sb ∈ e.authority :: e.blocks, sb.nextKey.algorithm < 2^64)
    (hlen : (encodeBiscuit e).length < 2^64) :
    unmarshalFrom base (encodeBiscuit e) = .ok { envelope := e, blocks := buildBlockMsgs base cs } := by
  have hp : parseAll (e.authority :: e.blocks) = .ok (buildBlockMsgs base cs) :=
    parseAll_encoded _ _ hblocks hsize fun m hm =>
      ⟨hwf m hm, (built_blocks_kinds base cs m hm).1, (built_blocks_kinds base cs m hm).2⟩
  simp only [unmarshalFrom, decodeBiscuit_encode_of_length e hid halg hlen, hp,
    buildBlockMsgs_declared base cs, if_true]

/-- The package-level `Unmarshal` (no base table) on a token built with no base table. -/
theorem unmarshal_accepts_built (cs : List BlockContent) (e : BiscuitMsg)
    (hblocks : (e.authority :: e.blocks).map (·.block) = (buildBlockMsgs [] cs).map encodeBlock)
    (hsize : ∀ sb ∈ e.authority :: e.blocks, sb.nextKey.key.length = 32 ∧ sb.signature.length = 64)
    (hwf : ∀ m ∈ buildBlockMsgs [] cs, BlockWF m)
    (hid : ∀ i, e.rootKeyId = some i → i < 2^32)
    (halg : ∀ sb ∈ e.authority :: e.blocks, sb.nextKey.algorithm < 2^64)
    (hlen : (encodeBiscuit e).length < 2^64) :
    unmarshal (encodeBiscuit e) = .ok { envelope := e, blocks := buildBlockMsgs [] cs } :=
  unmarshalFrom_accepts_built [] cs e hblocks hsize hwf hid halg hlen

/-! ## Non-vacuity

Two blocks. Authority: `owner("alice", "file1")`, `right($f, "read") <- owner("alice", $f),
$f.starts_with("file")`. Second block: `check if right($g, "read"), $g == "file1"` — a
string term, variables, a rule and a check; `"file1"` and `"alice"` are shared across
blocks, `g` is a variable the second block declares. -/

def sAlice : Bytes := strBytes "alice"
def sFile1 : Bytes := strBytes "file1"

def fOwner : DFact := { name := strBytes "owner", args := [.atom (.str sAlice), .atom (.str sFile1)] }

def rRight : DRule :=
  { head := { name := strBytes "right", terms := [.var (strBytes "f"), .const (.atom (.str (strBytes "read")))] },
    body := [{ name := strBytes "owner", terms := [.const (.atom (.str sAlice)), .var (strBytes "f")] }],
    exprs := [[.value (.var (strBytes "f")), .value (.const (.atom (.str (strBytes "file")))), .binary .pfx]] }

def qRight : DRule :=
  { head := { name := strBytes "query", terms := [] },
    body := [{ name := strBytes "right", terms := [.var (strBytes "g"), .const (.atom (.str (strBytes "read")))] }],
    exprs := [[.value (.var (strBytes "g")), .value (.const (.atom (.str sFile1))), .binary .eq]] }

def c0 : BlockContent := { block := { facts := [fOwner], rules := [rRight], checks := [] }, context := [] }
def c1 : BlockContent :=
  { block := { facts := [], rules := [], checks := [{ queries := [qRight] }] }, context := strBytes "ctx" }

def cs2 : List BlockContent := [c0, c1]

/-- A base table with a duplicate and a default string (not `TableOK`). -/
def oddBase : SymTable := [strBytes "x", strBytes "read", strBytes "x"]

/-! For `unmarshal_accepts_built`: an envelope around `cs2` with 32-byte keys and 64-byte
signatures. -/

def sbOf (k : UInt8) (m : BlockMsg) : SignedBlockMsg :=
  { block := encodeBlock m, nextKey := { algorithm := 0, key := List.replicate 32 k },
    signature := List.replicate 64 k }

def exEnvelope : BiscuitMsg :=
  { rootKeyId := some 7, authority := sbOf 1 (buildBlockMsg [] c0).2,
    blocks := [sbOf 2 (buildBlockMsg (buildBlockMsg [] c0).1 c1).2],
    proof := .nextSecret (List.replicate 32 3) }

/-- The concrete facts of this section in one evaluation: the kernel then turns the default
symbol names into bytes and builds the two messages once, not once per fact. -/
theorem cs2_evaluated :
    blocksDeclared [] (buildBlockMsgs [] cs2) = true ∧
    (buildBlockMsgs [] cs2).map (·.symbols) =
      [[sAlice, sFile1, strBytes "f", strBytes "file"], [strBytes "g"]] ∧
    ((buildBlockMsgs [] cs2).map fun m => m.rules.map (·.head.terms)) =
      [[[.atom (.variable 1026), .atom (.string 0)]], []] ∧
    ((buildBlockMsgs [] cs2).map fun m => m.checks.map fun c => c.queries.map (·.body.map (·.terms))) =
      [[], [[[[.atom (.variable 1028), .atom (.string 0)]]]]] ∧
    blocksDeclared oddBase (buildBlockMsgs oddBase cs2) = true := by decide +kernel

theorem exEnvelope_evaluated :
    (exEnvelope.authority :: exEnvelope.blocks).map (·.block) = (buildBlockMsgs [] cs2).map encodeBlock ∧
    (match unmarshal (encodeBiscuit exEnvelope) with
      | .ok p => decide (p.envelope = exEnvelope ∧ p.blocks = buildBlockMsgs [] cs2)
      | .error _ => false) = true := by decide +kernel

example : blocksDeclared [] (buildBlockMsgs [] cs2) = true := cs2_evaluated.1
example : blocksDeclared [] (buildBlockMsgs [] cs2) = true := buildBlockMsgs_declared [] cs2
example : (buildBlockMsgs [] cs2).map (·.symbols) =
    [[sAlice, sFile1, strBytes "f", strBytes "file"], [strBytes "g"]] := cs2_evaluated.2.1
/-- The variable `$f` of the authority block is number 1026, `$g` of the second block 1028. -/
example : ((buildBlockMsgs [] cs2).map fun m => m.rules.map (·.head.terms)) =
    [[[.atom (.variable 1026), .atom (.string 0)]], []] := cs2_evaluated.2.2.1
example : ((buildBlockMsgs [] cs2).map fun m => m.checks.map fun c => c.queries.map (·.body.map (·.terms))) =
    [[], [[[[.atom (.variable 1028), .atom (.string 0)]]]]] := cs2_evaluated.2.2.2.1

example : blocksDeclared oddBase (buildBlockMsgs oddBase cs2) = true := cs2_evaluated.2.2.2.2

/-- The serialization of `exEnvelope` is accepted and yields the built messages. -/
example : (exEnvelope.authority :: exEnvelope.blocks).map (·.block) = (buildBlockMsgs [] cs2).map encodeBlock :=
  exEnvelope_evaluated.1

example : (match unmarshal (encodeBiscuit exEnvelope) with
    | .ok p => decide (p.envelope = exEnvelope ∧ p.blocks = buildBlockMsgs [] cs2)
    | .error _ => false) = true := exEnvelope_evaluated.2

/-! ## The other side: a block built over a longer table (D24)

`NewBlockBuilder(long)` interns `"superuser"` into a table that already holds two strings,
so the block refers to index 1026 and declares one symbol. `New` over the EMPTY table
reads index 1026 through a table of length one: undeclared. biscuit-go before 3376d3d let
this through `New` and `Append`; the token read `role("<invalid symbol 1026>")` until a later
block declared a string at that index (Props/C02Wire,
`undeclared_symbol_widens_without_gate`). -/

def long : SymTable := [strBytes "a", strBytes "b"]

def cSuper : BlockContent :=
  { block := { facts := [{ name := strBytes "role", args := [.atom (.str (strBytes "superuser"))] }],
               rules := [], checks := [] },
    context := [] }

/-- Over the table it was built on, the block is inside the gate … -/
theorem built_over_longer_table_accepted_there :
    blocksDeclared long [(buildBlockMsg long cSuper).2] = true :=
  buildBlockMsgs_declared long [cSuper]

/-- … over a shorter one it is refused: `New` / `Append` / `Unmarshal` answer with an
error instead of making a token whose authority fact has no fixed reading. -/
theorem built_over_longer_table_refused :
    blocksDeclared [] [(buildBlockMsg long cSuper).2] = false := by decide +kernel

/-- So the starting table in `buildBlockMsgs_declared` cannot be replaced by a shorter one. -/
theorem gate_needs_same_table :
    ¬ (∀ (start base : SymTable) (c : BlockContent),
        blocksDeclared base [(buildBlockMsg start c).2] = true) :=
  fun h => absurd (h long [] cSuper) (by rw [built_over_longer_table_refused]; decide)

/-! ## Honest use is always accepted

`gateAnswer tbl m` (Model/Unmarshal) is what `New` over the base table `tbl`, and `Append`
to a token whose table is `tbl`, answer for a block `m`. -/

theorem blocksDeclared_single (tbl : SymTable) (m : BlockMsg) :
    blocksDeclared tbl [m] = blockDeclared (extendTable tbl m.symbols) m := by
  simp [blocksDeclared]

theorem overlap_iff (tbl : SymTable) (syms : List Bytes) :
    (syms.any fun s => tbl.contains s) = true ↔ ∃ s ∈ syms, s ∈ tbl := by
  simp

/-- `gateAnswer` with its first test read as a proposition. -/
theorem gateAnswer_eq (tbl : SymTable) (m : BlockMsg) :
    gateAnswer tbl m =
      if ∃ s ∈ m.symbols, s ∈ tbl then .overlap
      else if blocksDeclared tbl [m] = true then .ok else .undeclared := by
  simp only [gateAnswer, overlap_iff]

theorem gateAnswer_overlap_iff (tbl : SymTable) (m : BlockMsg) :
    gateAnswer tbl m = .overlap ↔ ∃ s ∈ m.symbols, s ∈ tbl := by
  rw [gateAnswer_eq]
  by_cases h : ∃ s ∈ m.symbols, s ∈ tbl
  · simp [h]
  · rw [if_neg h]; split <;> simp [h]

theorem gateAnswer_ok_iff (tbl : SymTable) (m : BlockMsg) :
    gateAnswer tbl m = .ok ↔ (∀ s ∈ m.symbols, s ∉ tbl) ∧ blocksDeclared tbl [m] = true := by
  rw [gateAnswer_eq]
  by_cases h : ∃ s ∈ m.symbols, s ∈ tbl
  · rw [if_pos h]
    obtain ⟨s, hs, ht⟩ := h
    exact ⟨fun h => (nomatch h), fun h => absurd ht (h.1 s hs)⟩
  · rw [if_neg h]; split <;> simp_all

theorem gateAnswer_undeclared_iff (tbl : SymTable) (m : BlockMsg) :
    gateAnswer tbl m = .undeclared ↔
      (∀ s ∈ m.symbols, s ∉ tbl) ∧ blocksDeclared tbl [m] = false := by
  rw [gateAnswer_eq]
  by_cases h : ∃ s ∈ m.symbols, s ∈ tbl
  · rw [if_pos h]
    obtain ⟨s, hs, ht⟩ := h
    exact ⟨fun h => (nomatch h), fun h => absurd ht (h.1 s hs)⟩
  · rw [if_neg h]; split <;> simp_all

theorem gateAnswer_cases (tbl : SymTable) (m : BlockMsg) :
    gateAnswer tbl m = .ok ∨ gateAnswer tbl m = .overlap ∨ gateAnswer tbl m = .undeclared := by
  cases gateAnswer tbl m <;> simp

/-- The symbols a built block declares were all new when `Insert` appended them: none is a
default symbol, none is in the starting table — whatever that table holds. -/
theorem buildBlockMsg_symbols_fresh (t : SymTable) (c : BlockContent) :
    ∀ s ∈ (buildBlockMsg t c).2.symbols, s ∉ defaultSymbols ∧ s ∉ t :=
  (buildBlockMsg_growsTo t c).drop_fresh.1

theorem buildBlockMsg_symbols_nodup (t : SymTable) (c : BlockContent) :
    (buildBlockMsg t c).2.symbols.Nodup :=
  (buildBlockMsg_growsTo t c).drop_fresh.2

/-- `IsDisjoint` holds between a table and the symbols of a block built over it. -/
theorem buildBlockMsg_disjoint (t : SymTable) (c : BlockContent) :
    ((buildBlockMsg t c).2.symbols.any fun s => t.contains s) = false := by
  rw [Bool.eq_false_iff]
  intro h
  obtain ⟨s, hs, hst⟩ := (overlap_iff t _).mp h
  exact (buildBlockMsg_symbols_fresh t c s hs).2 hst

/-- **A block built over the table it is handed in with is accepted** by `New` / `Append`:
`NewBlockBuilder(t)`, any content, `Build()`, then `New(…, t, block)` — or `CreateBlock()`
on a token whose table is `t`, then `Append`. No condition on `t`. -/
theorem gateAnswer_built (t : SymTable) (c : BlockContent) :
    gateAnswer t (buildBlockMsg t c).2 = .ok := by
  rw [gateAnswer_ok_iff]
  refine ⟨fun s hs => (buildBlockMsg_symbols_fresh t c s hs).2, ?_⟩
  rw [blocksDeclared_single]
  exact buildBlockMsg_declared' t c

/-- The table a token holds after its blocks `cs` were built one after the other from
`base` (the builder's side; `buildBlockMsgs` threads the same table). -/
def builtTable (base : SymTable) (cs : List BlockContent) : SymTable :=
  cs.foldl (fun t c => (buildBlockMsg t c).1) base

theorem buildBlockMsgs_snoc (cs : List BlockContent) (c : BlockContent) : ∀ base : SymTable,
    buildBlockMsgs base (cs ++ [c]) =
      buildBlockMsgs base cs ++ [(buildBlockMsg (builtTable base cs) c).2] := by
  induction cs with
  | nil => intro base; rfl
  | cons c0 cs ih =>
    intro base
    rw [List.cons_append, buildBlockMsgs_cons, ih]; rfl

/-- Both sides agree on the table of an honestly built token. -/
theorem readTable_built (cs : List BlockContent) : ∀ base : SymTable,
    readTable base (buildBlockMsgs base cs) = builtTable base cs := by
  induction cs with
  | nil => intro base; rfl
  | cons c0 cs ih =>
    intro base
    show readTable (extendTable base (buildBlockMsg base c0).2.symbols)
      (buildBlockMsgs (buildBlockMsg base c0).1 cs) = builtTable (buildBlockMsg base c0).1 cs
    rw [buildBlockMsg_extend, ih]

/-- **`CreateBlock` + `Append` on any honestly built token is accepted**: the instance of
`gateAnswer_built` at the table of the token built from `cs` over `base`. -/
theorem gateAnswer_token_chain (base : SymTable) (cs : List BlockContent) (c : BlockContent) :
    gateAnswer (builtTable base cs) (buildBlockMsg (builtTable base cs) c).2 = .ok :=
  gateAnswer_built (builtTable base cs) c

/-- The same with the table as the reading side computes it from the token's messages. -/
theorem gateAnswer_token_chain' (base : SymTable) (cs : List BlockContent) (c : BlockContent) :
    gateAnswer (readTable base (buildBlockMsgs base cs))
      (buildBlockMsg (readTable base (buildBlockMsgs base cs)) c).2 = .ok :=
  gateAnswer_built _ c

/-- `New` on the first block, `Append` on each further one, every answer `.ok`. -/
def gateChain (base : SymTable) : List BlockMsg → Bool
  | [] => true
  | m :: ms => decide (gateAnswer base m = .ok) && gateChain (extendTable base m.symbols) ms

/-- **Every token `New` / `Append` let through is inside the declared-symbols gate** as
`Unmarshal` applies it to the whole token. -/
theorem gateAnswer_ok_attenuation (msgs : List BlockMsg) : ∀ base : SymTable,
    gateChain base msgs = true → blocksDeclared base msgs = true := by
  induction msgs with
  | nil => intro _ _; rfl
  | cons m ms ih =>
    intro base h
    simp only [gateChain, Bool.and_eq_true, decide_eq_true_eq] at h
    have hd := ((gateAnswer_ok_iff base m).mp h.1).2
    rw [blocksDeclared_single] at hd
    rw [blocksDeclared_cons, hd, ih _ h.2]; rfl

theorem gateChain_inside_wire_theorem (msgs : List BlockMsg) (h : gateChain [] msgs = true) :
    blocksDeclaredV [] msgs = true := by
  rw [C02Wire.blocksDeclaredV_eq]; exact gateAnswer_ok_attenuation msgs [] h

/-- C02 at the wire level for every token `New` / `Append` let through, whatever block is
appended afterwards (through the gate or not). -/
theorem gateChain_attenuation_monotone (cfg : EvalCfg) (p : Bool) (msgs : List BlockMsg) (b : BlockMsg)
    (s : AuthState) (h : gateChain [] msgs = true) (a : Block) (rest : List Block) (bB : Block)
    (hTB : resolveTokenL p (msgs ++ [b]) = .ok (a :: rest ++ [bB])) :
    resolveTokenL p msgs = .ok (a :: rest) ∧
    ((authorize cfg { authority := a, blocks := rest ++ [bB] } s).2 = .ok →
     (authorize cfg { authority := a, blocks := rest } s).2 = .ok) :=
  C02Wire.wire_attenuation_monotone cfg p msgs b s (gateChain_inside_wire_theorem msgs h) a rest bB hTB

/-- Honest tokens pass the whole chain: `New` accepts the authority block, every `Append`
accepts the next one. -/
theorem gateChain_built (cs : List BlockContent) : ∀ base : SymTable,
    gateChain base (buildBlockMsgs base cs) = true := by
  induction cs with
  | nil => intro _; rfl
  | cons c cs ih =>
    intro base
    show (decide (gateAnswer base (buildBlockMsg base c).2 = .ok) &&
      gateChain (extendTable base (buildBlockMsg base c).2.symbols)
        (buildBlockMsgs (buildBlockMsg base c).1 cs)) = true
    rw [gateAnswer_built, buildBlockMsg_extend, ih]; rfl

theorem gate_evaluated :
    gateAnswer long (buildBlockMsg long cSuper).2 = .ok ∧
    gateAnswer oddBase (buildBlockMsg oddBase c0).2 = .ok ∧
    gateChain [] (buildBlockMsgs [] cs2) = true ∧
    gateChain oddBase (buildBlockMsgs oddBase cs2) = true ∧
    gateAnswer (builtTable [] cs2) (buildBlockMsg (builtTable [] cs2) cSuper).2 = .ok ∧
    builtTable [] cs2 = [sAlice, sFile1, strBytes "f", strBytes "file", strBytes "g"] := by decide +kernel

theorem refusals_evaluated :
    gateAnswer [] (buildBlockMsg long cSuper).2 = .undeclared ∧
    gateAnswer [strBytes "superuser"] (buildBlockMsg [] cSuper).2 = .overlap ∧
    (buildBlockMsg [] cSuper).2.symbols = [strBytes "superuser"] ∧
    gateAnswer [strBytes "x"]
      { symbols := [strBytes "x"], context := none, version := some 3, facts := [], rules := [], checks := [] }
      = .overlap := by decide +kernel

/-- Honest: built over `long`, handed in over `long`. -/
example : gateAnswer long (buildBlockMsg long cSuper).2 = .ok := gate_evaluated.1
example : gateAnswer long (buildBlockMsg long cSuper).2 = .ok := gateAnswer_built long cSuper
example : gateAnswer oddBase (buildBlockMsg oddBase c0).2 = .ok := gate_evaluated.2.1
example : gateChain [] (buildBlockMsgs [] cs2) = true := gate_evaluated.2.2.1
example : gateChain oddBase (buildBlockMsgs oddBase cs2) = true := gate_evaluated.2.2.2.1
example : gateAnswer (builtTable [] cs2) (buildBlockMsg (builtTable [] cs2) cSuper).2 = .ok :=
  gate_evaluated.2.2.2.2.1
example : builtTable [] cs2 = [sAlice, sFile1, strBytes "f", strBytes "file", strBytes "g"] :=
  gate_evaluated.2.2.2.2.2

/-- Built over `["a","b"]`, handed in over `[]`: `.undeclared` (D24). -/
theorem built_over_longer_table_undeclared :
    gateAnswer [] (buildBlockMsg long cSuper).2 = .undeclared := refusals_evaluated.1

/-- Built over `[]` (so it declares `"superuser"`), handed in over a table that already
holds `"superuser"`: `.overlap`. -/
theorem built_over_shorter_table_overlap :
    gateAnswer [strBytes "superuser"] (buildBlockMsg [] cSuper).2 = .overlap := refusals_evaluated.2.1

example : (buildBlockMsg [] cSuper).2.symbols = [strBytes "superuser"] := refusals_evaluated.2.2.1

/-- A hand-made block that declares `"x"` over a table holding `"x"`: `.overlap`, before
the declared-symbols rule is looked at. -/
example : gateAnswer [strBytes "x"]
    { symbols := [strBytes "x"], context := none, version := some 3, facts := [], rules := [], checks := [] }
    = .overlap := refusals_evaluated.2.2.2

/-- So in `gateAnswer_built` the two tables must be the same one: neither a shorter nor a
longer table gives `.ok` in general. -/
theorem gateAnswer_needs_same_table :
    ¬ (∀ (start tbl : SymTable) (c : BlockContent), gateAnswer tbl (buildBlockMsg start c).2 = .ok) :=
  fun h => absurd (h long [] cSuper) (by rw [built_over_longer_table_undeclared]; decide)

end Biscuit.C02Gate

#print axioms Biscuit.C02Gate.symInsert_declared
#print axioms Biscuit.C02Gate.symInsert_keeps_declared
#print axioms Biscuit.C02Gate.buildBlockMsg_extend
#print axioms Biscuit.C02Gate.buildBlockMsg_table
#print axioms Biscuit.C02Gate.buildBlockMsg_declared
#print axioms Biscuit.C02Gate.buildBlockMsg_declared'
#print axioms Biscuit.C02Gate.buildBlockMsg_tableOK
#print axioms Biscuit.C02Gate.buildBlockMsgs_declared
#print axioms Biscuit.C02Gate.buildBlockMsgs_declared_of_tableOK
#print axioms Biscuit.C02Gate.append_built_declared
#print axioms Biscuit.C02Gate.built_tokens_inside_wire_theorem
#print axioms Biscuit.C02Gate.built_token_attenuation_monotone
#print axioms Biscuit.C02Gate.built_blocks_kinds
#print axioms Biscuit.C02Gate.unmarshalFrom_accepts_built
#print axioms Biscuit.C02Gate.unmarshal_accepts_built
#print axioms Biscuit.C02Gate.built_over_longer_table_accepted_there
#print axioms Biscuit.C02Gate.built_over_longer_table_refused
#print axioms Biscuit.C02Gate.gate_needs_same_table
#print axioms Biscuit.C02Gate.blocksDeclared_single
#print axioms Biscuit.C02Gate.overlap_iff
#print axioms Biscuit.C02Gate.gateAnswer_overlap_iff
#print axioms Biscuit.C02Gate.gateAnswer_ok_iff
#print axioms Biscuit.C02Gate.gateAnswer_undeclared_iff
#print axioms Biscuit.C02Gate.gateAnswer_cases
#print axioms Biscuit.C02Gate.buildBlockMsg_symbols_fresh
#print axioms Biscuit.C02Gate.buildBlockMsg_symbols_nodup
#print axioms Biscuit.C02Gate.buildBlockMsg_disjoint
#print axioms Biscuit.C02Gate.gateAnswer_built
#print axioms Biscuit.C02Gate.buildBlockMsgs_snoc
#print axioms Biscuit.C02Gate.readTable_built
#print axioms Biscuit.C02Gate.gateAnswer_token_chain
#print axioms Biscuit.C02Gate.gateAnswer_token_chain'
#print axioms Biscuit.C02Gate.gateAnswer_ok_attenuation
#print axioms Biscuit.C02Gate.gateChain_inside_wire_theorem
#print axioms Biscuit.C02Gate.gateChain_attenuation_monotone
#print axioms Biscuit.C02Gate.gateChain_built
#print axioms Biscuit.C02Gate.built_over_longer_table_undeclared
#print axioms Biscuit.C02Gate.built_over_shorter_table_overlap
#print axioms Biscuit.C02Gate.gateAnswer_needs_same_table
#print axioms Biscuit.extendTable_eq_append_fresh
#print axioms Biscuit.GrowsTo.drop_fresh
