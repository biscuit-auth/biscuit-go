/-
Props/C02Wire — attenuation can only restrict, at the wire level.

Props/C02 is about `authorize` on resolved content: there, `tok.append B` keeps the
content of the earlier blocks by construction. On the wire that is not given: the Go code
resolves the symbol indexes of EVERY block through the token's whole cumulative table
(`resolveTokenL`), the tables of blocks appended later included. A token whose authority
block refers to an index that nothing declares reads `role("<invalid symbol 1024>")`; once
any holder appends a block declaring a symbol at that index the same authority fact reads
`role("superuser")`: attenuation widens (`undeclared_symbol_widens_without_gate`).

`Unmarshal` refuses a block that refers to an index — string, predicate name or variable
number — not declared by the default table, an earlier block or the block itself
(`blocksDeclared`, `unmarshal_ok_declared`). Under that gate appending a block on the wire
leaves the resolved content of all earlier blocks exactly as it was (`resolveTokenL_append`),
and C02 carries over (`wire_attenuation_monotone`).

The theorems are stated with `blocksDeclaredV` (Proofs/WireAttenuation), the gate written
out with one clause per place an index can sit. Variable NAMES are read through the symbol
table like strings and the library's check (biscuit-go c9a639e) covers them as well, so
`blocksDeclaredV` is the predicate `Unmarshal` applies (`blocksDeclaredV_eq`), and C02 holds
for every token it lets through (`unmarshal_attenuation_monotone`).
-/
import BiscuitModel.Proofs.WireAttenuation
import BiscuitModel.Props.C02

namespace Biscuit.C02Wire
open Biscuit Wire

/-- `Extend` only appends. -/
theorem extendTable_prefix (t : SymTable) (new : List Bytes) : ∃ ext, extendTable t new = t ++ ext :=
  Biscuit.extendTable_prefix t new

/-- The gate with one clause per place of an index is the gate of the code
(`checkDeclaredSymbols`, which looks at variable numbers too). -/
theorem blockDeclaredV_eq (t : SymTable) (m : BlockMsg) : blockDeclaredV t m = blockDeclared t m := by
  simp only [blockDeclaredV, blockDeclared, predDeclaredV_eq, ruleDeclaredV_eq,
    show checkDeclaredV t = fun c => c.queries.all (ruleDeclared t) from
      funext fun c => by rw [checkDeclaredV, ruleDeclaredV_eq]]

theorem blocksDeclaredV_eq (t : SymTable) (msgs : List BlockMsg) :
    blocksDeclaredV t msgs = blocksDeclared t msgs := by
  induction msgs generalizing t with
  | nil => rfl
  | cons m ms ih =>
    rw [blocksDeclared_cons, ← blockDeclaredV_eq, ← ih]; rfl

/-- The V-gate is at least the gate of the code. -/
theorem blocksDeclaredV_declared (t : SymTable) (msgs : List BlockMsg)
    (h : blocksDeclaredV t msgs = true) : blocksDeclared t msgs = true :=
  blocksDeclaredV_eq t msgs ▸ h

/-! What a declared index, atom, …, block resolves to does not depend on what is
appended to the table — with or without the panic branch of `Str` (`p` arbitrary). -/

theorem symStrGo_stable (p : Bool) (t ext : SymTable) (i : Nat) (h : symDeclared t i = true) :
    symStrGo p (t ++ ext) i = symStrGo p t i := by
  unfold symDeclared at h
  obtain ⟨x, hx⟩ := Option.isSome_iff_exists.mp h
  unfold symStrGo
  rw [sym_append_prefix_stable t ext i x hx, hx]

theorem resolveAtomL_stable (p : Bool) (t ext : SymTable) (a : IAtom) (h : atomDeclaredV t a = true) :
    resolveAtomL p (t ++ ext) a = resolveAtomL p t a := by
  cases a <;> simp only [resolveAtomL] <;> rw [symStrGo_stable p t ext _ h]

theorem resolveTermL_stable (p : Bool) (t ext : SymTable) (x : ITerm) (h : termDeclaredV t x = true) :
    resolveTermL p (t ++ ext) x = resolveTermL p t x := by
  cases x with
  | atom a =>
    have h' : atomDeclaredV t a = true := h
    cases a with
    | «variable» n => simp only [resolveTermL]; rw [symStrGo_stable p t ext _ h']
    | _ => simp only [resolveTermL]; rw [resolveAtomL_stable p t ext _ h']
  | set l =>
    simp only [resolveTermL]
    rw [mapMOutcome_congr_all (resolveAtomL_stable p t ext) l h]

theorem resolvePredL_stable (p : Bool) (t ext : SymTable) (q : IPred) (h : predDeclaredV t q = true) :
    resolvePredL p (t ++ ext) q = resolvePredL p t q := by
  simp only [predDeclaredV, Bool.and_eq_true] at h
  simp only [resolvePredL]
  rw [symStrGo_stable p t ext _ h.1, mapMOutcome_congr_all (resolveTermL_stable p t ext) _ h.2]

theorem resolveFactL_stable (p : Bool) (t ext : SymTable) (q : IPred) (h : predDeclaredV t q = true) :
    resolveFactL p (t ++ ext) q = resolveFactL p t q := by
  simp only [resolveFactL]
  rw [resolvePredL_stable p t ext q h]

theorem resolveOpL_stable (p : Bool) (t ext : SymTable) (o : IOp) (h : opDeclaredV t o = true) :
    resolveOpL p (t ++ ext) o = resolveOpL p t o := by
  cases o with
  | value v => simp only [resolveOpL]; rw [resolveTermL_stable p t ext v h]
  | unary k => rfl
  | binary k => rfl

theorem resolveRuleL_stable (p : Bool) (t ext : SymTable) (r : IRule) (h : ruleDeclaredV t r = true) :
    resolveRuleL p (t ++ ext) r = resolveRuleL p t r := by
  simp only [ruleDeclaredV, Bool.and_eq_true] at h
  simp only [resolveRuleL]
  rw [resolvePredL_stable p t ext _ h.1.1,
    mapMOutcome_congr_all (resolvePredL_stable p t ext) _ h.1.2,
    mapMOutcome_congr_all (d := fun e => e.all (opDeclaredV t))
      (fun e he => mapMOutcome_congr_all (resolveOpL_stable p t ext) e he) _ h.2]

theorem resolveCheckL_stable (p : Bool) (t ext : SymTable) (c : ICheck) (h : checkDeclaredV t c = true) :
    resolveCheckL p (t ++ ext) c = resolveCheckL p t c := by
  simp only [resolveCheckL]
  rw [mapMOutcome_congr_all (resolveRuleL_stable p t ext) _ h]

theorem resolveBlockL_stable (p : Bool) (t ext : SymTable) (m : BlockMsg) (h : blockDeclaredV t m = true) :
    resolveBlockL p (t ++ ext) m = resolveBlockL p t m := by
  simp only [blockDeclaredV, Bool.and_eq_true] at h
  simp only [resolveBlockL]
  rw [mapMOutcome_congr_all (resolveFactL_stable p t ext) _ h.1.1,
    mapMOutcome_congr_all (resolveRuleL_stable p t ext) _ h.1.2,
    mapMOutcome_congr_all (resolveCheckL_stable p t ext) _ h.2]

/-- Appending a block on the wire leaves the resolved content of all earlier blocks
exactly as it was. -/
theorem resolveTokenL_append (p : Bool) (msgs : List BlockMsg) (b : BlockMsg)
    (h : blocksDeclaredV [] msgs = true) (toksTB : List Block)
    (hTB : resolveTokenL p (msgs ++ [b]) = .ok toksTB) :
    ∃ toksT bB, resolveTokenL p msgs = .ok toksT ∧ toksTB = toksT ++ [bB] := by
  rw [resolveTokenL_eq, readTable_append] at hTB
  obtain ⟨ext, hext⟩ := extendTable_prefix (C02Gate.readTable [] msgs) b.symbols
  rw [hext] at hTB
  obtain ⟨r1, r2, h1, h2, rfl⟩ := mapMOutcome_append_ok _ msgs [b] toksTB hTB
  obtain ⟨bB, _, rfl⟩ := mapMOutcome_singleton_ok _ b r2 h2
  refine ⟨r1, bB, ?_, rfl⟩
  rw [resolveTokenL_eq, ← h1]
  -- every block is declared in the parent's final table, which the appended token's table extends
  exact mapMOutcome_congr msgs fun m hm =>
    (resolveBlockL_stable p _ ext m (blocksDeclaredV_cum msgs [] h m hm)).symm

/-- **C02 at the wire level.** `msgs` is the parent token (authority first), `b` any
appended block message, with any symbols: the parent resolves to what the appended token
reads for its blocks, and it is accepted whenever the appended token is (the first half is
the wire content; the second is `C02.attenuation_monotone` on the resolved blocks). (For `msgs = []`
there is no authority block: `resolveTokenL p [b]` has one element and `hTB` cannot hold —
`resolved_length`.) -/
theorem wire_attenuation_monotone (cfg : EvalCfg) (p : Bool) (msgs : List BlockMsg) (b : BlockMsg)
    (s : AuthState) (h : blocksDeclaredV [] msgs = true) (a : Block) (rest : List Block) (bB : Block)
    (hTB : resolveTokenL p (msgs ++ [b]) = .ok (a :: rest ++ [bB])) :
    resolveTokenL p msgs = .ok (a :: rest) ∧
    ((authorize cfg { authority := a, blocks := rest ++ [bB] } s).2 = .ok →
     (authorize cfg { authority := a, blocks := rest } s).2 = .ok) := by
  obtain ⟨toksT, bB', hT, heq⟩ := resolveTokenL_append p msgs b h _ hTB
  have hsplit : a :: rest = toksT ∧ [bB] = [bB'] :=
    List.append_inj' (show (a :: rest) ++ [bB] = toksT ++ [bB'] from heq) rfl
  refine ⟨by rw [hT, hsplit.1], ?_⟩
  exact C02.attenuation_monotone cfg { authority := a, blocks := rest } bB s

/-- As many blocks come out of resolution as went in. -/
theorem resolved_length (p : Bool) (msgs : List BlockMsg) (toks : List Block)
    (h : resolveTokenL p msgs = .ok toks) : toks.length = msgs.length :=
  mapMOutcome_length _ msgs toks h

/-- The same with the shape of the result derived instead of assumed, for any non-empty
declared parent `m0 :: ms`. -/
theorem wire_attenuation_monotone' (cfg : EvalCfg) (p : Bool) (m0 : BlockMsg) (ms : List BlockMsg)
    (b : BlockMsg) (s : AuthState) (h : blocksDeclaredV [] (m0 :: ms) = true) (toksTB : List Block)
    (hTB : resolveTokenL p (m0 :: ms ++ [b]) = .ok toksTB) :
    ∃ a rest bB, toksTB = a :: rest ++ [bB] ∧ resolveTokenL p (m0 :: ms) = .ok (a :: rest) ∧
      ((authorize cfg { authority := a, blocks := rest ++ [bB] } s).2 = .ok →
       (authorize cfg { authority := a, blocks := rest } s).2 = .ok) := by
  obtain ⟨toksT, bB, hT, rfl⟩ := resolveTokenL_append p (m0 :: ms) b h _ hTB
  have hlen := resolved_length p _ _ hT
  cases toksT with
  | nil => cases hlen
  | cons a rest =>
    exact ⟨a, rest, bB, rfl, hT, C02.attenuation_monotone cfg { authority := a, blocks := rest } bB s⟩

/-- Contrapositive: a refusal of the parent (any verdict other than `ok`) is not turned
into an acceptance by any appended block message. -/
theorem wire_refusal_is_stable (cfg : EvalCfg) (p : Bool) (msgs : List BlockMsg) (b : BlockMsg)
    (s : AuthState) (h : blocksDeclaredV [] msgs = true) (a : Block) (rest : List Block) (bB : Block)
    (hTB : resolveTokenL p (msgs ++ [b]) = .ok (a :: rest ++ [bB]))
    (hno : (authorize cfg { authority := a, blocks := rest } s).2 ≠ .ok) :
    (authorize cfg { authority := a, blocks := rest ++ [bB] } s).2 ≠ .ok :=
  fun hok => hno ((wire_attenuation_monotone cfg p msgs b s h a rest bB hTB).2 hok)

/-- What `Unmarshal` lets through is declared. -/
theorem unmarshal_ok_declared (bs : Bytes) (p : Parsed) (h : unmarshal bs = .ok p) :
    blocksDeclared [] p.blocks = true := by
  unfold unmarshal unmarshalFrom at h
  split at h
  · cases h
  · split at h
    · cases h
    · split at h
      · rename_i hd; cases h; exact hd
      · cases h

/-! Without the gate the hypothesis cannot be dropped.

Authority block: no symbols, `role(<string 1024>)` (`role` = default index 6). Appended
block: symbols `["superuser"]`, `owner("superuser")` (`owner` = default index 7).
Authorizer: `allow if role("superuser")`. -/

def msgT : BlockMsg :=
  { symbols := [], context := none, version := some 3,
    facts := [{ name := 6, terms := [.atom (.string 1024)] }], rules := [], checks := [] }

def msgsT : List BlockMsg := [msgT]

def bB : BlockMsg :=
  { symbols := [strBytes "superuser"], context := none, version := some 3,
    facts := [{ name := 7, terms := [.atom (.string 1024)] }], rules := [], checks := [] }

def qSuper : DRule :=
  { head := { name := strBytes "query", terms := [] },
    body := [{ name := strBytes "role", terms := [.const (.atom (.str (strBytes "superuser")))] }],
    exprs := [] }

/-- `allow if role("superuser")`. -/
def s : AuthState :=
  addPolicy (AuthState.fresh { maxFacts := 1000, maxIter := 100 }) { kind := .allow, queries := [qSuper] }

/-- The authority block as the parent token reads it: `role("<invalid symbol 1024>")`. -/
def blkT : Block :=
  { facts := [{ name := strBytes "role", args := [.atom (.str (strBytes "<invalid symbol 1024>"))] }],
    rules := [], checks := [] }

/-- The SAME authority block as the appended token reads it: `role("superuser")`. -/
def blkT' : Block :=
  { facts := [{ name := strBytes "role", args := [.atom (.str (strBytes "superuser"))] }],
    rules := [], checks := [] }

def blkB : Block :=
  { facts := [{ name := strBytes "owner", args := [.atom (.str (strBytes "superuser"))] }],
    rules := [], checks := [] }

def tokT : Token := { authority := blkT, blocks := [] }
def tokTB : Token := { authority := blkT', blocks := [blkB] }

/-- Without the gate: the parent is refused, the attenuated token is accepted, because the
authority block changed its reading. Both tokens are outside `blocksDeclared`, so
`Unmarshal` refuses both (`unmarshal_ok_declared`). -/
theorem undeclared_symbol_widens_without_gate :
    blocksDeclared [] msgsT = false ∧
    blocksDeclared [] (msgsT ++ [bB]) = false ∧
    resolveTokenL false msgsT = .ok [tokT.authority] ∧
    resolveTokenL false (msgsT ++ [bB]) = .ok (tokTB.authority :: tokTB.blocks) ∧
    tokT.authority ≠ tokTB.authority ∧
    (authorize C02.cfg0 tokT s).2 = .noMatch ∧
    (authorize C02.cfg0 tokT s).2 ≠ .ok ∧
    (authorize C02.cfg0 tokTB s).2 = .ok := by
  decide +kernel

/-- So the hypothesis of `wire_attenuation_monotone` is not redundant: its conclusion
fails for this parent and this appended block. -/
theorem wire_attenuation_needs_gate :
    ¬ (∀ (msgs : List BlockMsg) (b : BlockMsg) (a : Block) (rest : List Block) (bB : Block),
        resolveTokenL false (msgs ++ [b]) = .ok (a :: rest ++ [bB]) →
        resolveTokenL false msgs = .ok (a :: rest)) := by
  intro hall
  have h := hall msgsT bB blkT' [] blkB undeclared_symbol_widens_without_gate.2.2.2.1
  rw [undeclared_symbol_widens_without_gate.2.2.1] at h
  exact absurd h (by decide +kernel)

/-! Non-vacuity of `wire_attenuation_monotone`: the same content with the symbol declared
by the authority block. The appended block's `"superuser"` is then already known, `Extend`
skips it, and both readings agree. -/

def msgD : BlockMsg := { msgT with symbols := [strBytes "superuser"] }

/-- One evaluation for the four facts: the kernel then turns the default symbol names into
bytes once, not once per fact. -/
theorem msgD_evaluated :
    blocksDeclaredV [] [msgD] = true ∧
    resolveTokenL false ([msgD] ++ [bB]) = .ok (blkT' :: [] ++ [blkB]) ∧
    resolveTokenL false [msgD] = .ok [blkT'] ∧
    (authorize C02.cfg0 { authority := blkT', blocks := [] ++ [blkB] } s).2 = .ok := by decide +kernel

example : blocksDeclaredV [] [msgD] = true := msgD_evaluated.1
example : resolveTokenL false ([msgD] ++ [bB]) = .ok (blkT' :: [] ++ [blkB]) := msgD_evaluated.2.1
example : resolveTokenL false [msgD] = .ok [blkT'] := msgD_evaluated.2.2.1
example : (authorize C02.cfg0 { authority := blkT', blocks := [] ++ [blkB] } s).2 = .ok := msgD_evaluated.2.2.2

/-- **C02 for every token `Unmarshal` lets through**: whatever block is appended on the
wire, the earlier blocks resolve as before and an accepted T+B means an accepted T. -/
theorem unmarshal_attenuation_monotone (cfg : EvalCfg) (p : Bool) (bs : Bytes) (parsed : Parsed)
    (hU : unmarshal bs = .ok parsed) (b : BlockMsg) (s : AuthState) (a : Block) (rest : List Block) (bB : Block)
    (hTB : resolveTokenL p (parsed.blocks ++ [b]) = .ok (a :: rest ++ [bB])) :
    resolveTokenL p parsed.blocks = .ok (a :: rest) ∧
    ((authorize cfg { authority := a, blocks := rest ++ [bB] } s).2 = .ok →
     (authorize cfg { authority := a, blocks := rest } s).2 = .ok) := by
  have hd := unmarshal_ok_declared bs parsed hU
  rw [← blocksDeclaredV_eq] at hd
  exact wire_attenuation_monotone cfg p parsed.blocks b s hd a rest bB hTB

end Biscuit.C02Wire

namespace Biscuit
open Wire

theorem resolveBlockL_stable (p : Bool) (t ext : SymTable) (m : BlockMsg) (h : blockDeclaredV t m = true) :
    resolveBlockL p (t ++ ext) m = resolveBlockL p t m :=
  C02Wire.resolveBlockL_stable p t ext m h

/-- The earlier blocks of the appended token resolve exactly as in the parent token. -/
theorem resolveTokenL_append (p : Bool) (msgs : List BlockMsg) (b : BlockMsg)
    (h : blocksDeclaredV [] msgs = true) (toksTB : List Block)
    (hTB : resolveTokenL p (msgs ++ [b]) = .ok toksTB) :
    ∃ toksT bB, resolveTokenL p msgs = .ok toksT ∧ toksTB = toksT ++ [bB] :=
  C02Wire.resolveTokenL_append p msgs b h toksTB hTB

end Biscuit
