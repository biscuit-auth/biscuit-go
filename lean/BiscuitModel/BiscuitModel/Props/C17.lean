/-
Props/C17 — revocation identifiers are per-block, stable and unique.
-/
import BiscuitModel.Proofs.Token

namespace Biscuit.C17
open Biscuit Biscuit.Wire

/-- Exactly one identifier per block (authority included). -/
theorem revids_count (e : BiscuitMsg) : (revocationIds e).length = e.blocks.length + 1 := by
  simp [revocationIds]

/-- The `i`-th identifier is the signature found on block `i` of the envelope. -/
theorem revid_is_block_signature (e : BiscuitMsg) (i : Nat) :
    (revocationIds e)[i]? = ((e.authority :: e.blocks)[i]?).map (·.signature) := by
  rw [revocationIds_eq_map, List.getElem?_map]

/-- Conditional form (the decoder is assumed to return `e` itself); `reload_revids` below has no
such hypothesis. -/
theorem revids_from_bytes (e e' : BiscuitMsg) (h : decodeBiscuit (encodeBiscuit e) = some e') :
    e' = e → revocationIds e' = revocationIds e := by
  -- `h` is part of the statement; the proof does not need it
  have _ := h
  intro he; rw [he]

def appends : List DeriveOp → Nat
  | [] => 0
  | .append _ _ :: ops => appends ops + 1
  | _ :: ops => appends ops

theorem derive_revids_step (keep : Bool) (S : SigScheme) (e e' : BiscuitMsg) (op : DeriveOp)
    (h : derive keep S e op = .ok e') :
    revocationIds e <+: revocationIds e' ∧
    (revocationIds e').length = (revocationIds e).length + appends [op] := by
  rcases op with ⟨block, rng⟩ | _ | _
  · obtain ⟨rng', ha⟩ := derive_append_ok_iff.1 h
    obtain ⟨_, _, _, _, _, rfl⟩ := appendEnvelopeWith_ok keep S e block rng rng' e' ha
    simp only [revocationIds_eq_map, ← List.cons_append, List.map_append]
    exact ⟨List.prefix_append _ _, List.length_append⟩
  · obtain ⟨_, _, _, rfl⟩ := sealEnvelopeWith_ok keep S e e' h
    exact ⟨List.prefix_refl _, rfl⟩
  · rw [reload_some e e' (derive_reload_ok_iff.1 h), revocationIds_normEnv]
    exact ⟨List.prefix_refl _, rfl⟩

/-- One derivation step: the parent's identifiers stay a prefix; `append` adds exactly
one, `seal` and `reload` none. -/
theorem derive_revids (S : SigScheme) (e e' : BiscuitMsg) (op : DeriveOp)
    (hwf : ∀ i, e.rootKeyId = some i → i < 2^32)
    (hwf2 : ∀ sb ∈ e.authority :: e.blocks, sb.nextKey.algorithm < 2^64)
    (h : derive true S e op = .ok e') :
    revocationIds e <+: revocationIds e' ∧
    (revocationIds e').length = (revocationIds e).length + (match op with | .append _ _ => 1 | _ => 0) := by
  -- `hwf`, `hwf2` are part of the statement; `derive_revids_step` holds without them
  have _ := hwf; have _ := hwf2
  have key := derive_revids_step true S e e' op h
  rcases op with ⟨block, rng⟩ | _ | _ <;> exact key

/-- Along every history, for either value of `keep` and with no hypothesis on the envelope:
the ancestor's identifiers stay a prefix, and each `append` adds exactly one. -/
theorem deriveAll_revids {keep : Bool} {S : SigScheme} {e0 e : BiscuitMsg} {ops : List DeriveOp}
    (h : deriveAll keep S e0 ops = .ok e) :
    revocationIds e0 <+: revocationIds e ∧
    (revocationIds e).length = (revocationIds e0).length + appends ops :=
  deriveAll_induction
    (R := fun e0 ops e => revocationIds e0 <+: revocationIds e ∧
      (revocationIds e).length = (revocationIds e0).length + appends ops)
    (fun _ => ⟨List.prefix_refl _, rfl⟩)
    (fun e op e1 ops e' hd _ ih => by
      obtain ⟨hp, hl⟩ := derive_revids_step keep S e e1 op hd
      refine ⟨hp.trans ih.1, ?_⟩
      rw [ih.2, hl]
      cases op <;> simp only [appends] <;> omega) h

/-- Envelopes produced by the library: algorithm tag 0, identifier below 2^32. -/
def LibWF (e : BiscuitMsg) : Prop :=
  (∀ i, e.rootKeyId = some i → i < 2^32) ∧ (∀ sb ∈ e.authority :: e.blocks, sb.nextKey.algorithm = ed25519Alg)

theorem derive_keeps_LibWF (S : SigScheme) (e e' : BiscuitMsg) (op : DeriveOp) (hwf : LibWF e)
    (h : derive true S e op = .ok e') : LibWF e' := by
  obtain ⟨hid, halg⟩ := hwf
  rcases op with ⟨block, rng⟩ | _ | _
  · obtain ⟨rng', ha⟩ := derive_append_ok_iff.1 h
    obtain ⟨_, _, _, _, _, rfl⟩ := appendEnvelopeWith_ok true S e block rng rng' e' ha
    refine ⟨hid, fun sb hsb => ?_⟩
    rw [← List.cons_append, List.mem_append, List.mem_singleton] at hsb
    rcases hsb with hsb | rfl
    · exact halg sb hsb
    · rfl
  · obtain ⟨_, _, _, rfl⟩ := sealEnvelopeWith_ok true S e e' h
    exact ⟨hid, halg⟩
  · rw [reload_some e e' (derive_reload_ok_iff.1 h),
      normEnv_eq e hid (fun sb hsb => by rw [halg sb hsb]; decide)]
    exact ⟨hid, halg⟩

/-- **C17.** Along every derivation history the identifiers of the derived token begin
with the identifiers of its ancestor, unchanged. -/
theorem revids_prefix (S : SigScheme) (e0 e : BiscuitMsg) (ops : List DeriveOp) (hwf : LibWF e0)
    (h : deriveAll true S e0 ops = .ok e) : revocationIds e0 <+: revocationIds e := by
  -- `hwf` is part of the statement; the proof does not need it
  have _ := hwf
  exact (deriveAll_revids h).1

/-- Uniqueness, conditional on what "ed25519 with fresh randomness per operation" means
symbolically — explicit hypotheses, not axioms: signatures of different payloads differ
(`signInj`, for a fixed key and across keys), and distinct seeds give distinct public keys.
Two appends that drew different seeds then produce different identifiers, whatever the
block content and whichever tokens they extend. -/
theorem revids_distinct_conditional (S : SigScheme)
    (signInj : ∀ k k' m m', S.sign k m = S.sign k' m' → m = m')
    (pubInj : ∀ s s', S.pub s = S.pub s' → s = s')
    (publen : ∀ s, (S.pub s).length = 32)
    (e1 e2 e1' e2' : BiscuitMsg) (b1 b2 : Bytes) (r1 r2 r1' r2' : Rng) (s1 s2 : Bytes)
    (hd1 : drawSeed r1 = some (s1, r1')) (hd2 : drawSeed r2 = some (s2, r2')) (hne : s1 ≠ s2)
    (h1 : appendEnvelope S e1 b1 r1 = .ok (e1', r1')) (h2 : appendEnvelope S e2 b2 r2 = .ok (e2', r2')) :
    (revocationIds e1').getLast? ≠ (revocationIds e2').getLast? := by
  obtain ⟨sk1, seed1, _, _, hd1', rfl⟩ := appendEnvelopeWith_ok true S e1 b1 r1 r1' e1' h1
  obtain ⟨sk2, seed2, _, _, hd2', rfl⟩ := appendEnvelopeWith_ok true S e2 b2 r2 r2' e2' h2
  rw [hd1] at hd1'; rw [hd2] at hd2'
  simp only [Option.some.injEq, Prod.mk.injEq, and_true] at hd1' hd2'
  subst hd1'; subst hd2'
  intro heq
  simp only [revocationIds, List.map_append, List.map_cons, List.map_nil] at heq
  rw [← List.cons_append, ← List.cons_append, List.getLast?_append, List.getLast?_append] at heq
  simp only [List.getLast?_singleton, Option.some_or, Option.some.injEq] at heq
  have hm := signInj _ _ _ _ heq
  have hk := List.append_inj_right' hm (by rw [publen, publen])
  exact hne (pubInj _ _ hk)

/-- A library-produced envelope that reloads from its own bytes comes back with the same
identifiers, in the same order (no hypothesis on what the decoder returned). -/
theorem reload_revids (e e' : BiscuitMsg) (hwf : LibWF e) (hr : reload e = some e') :
    revocationIds e' = revocationIds e := by
  -- `hwf` is part of the statement; the proof does not need it
  have _ := hwf
  rw [reload_some e e' hr, revocationIds_normEnv]

/-- **C17, count along histories.** The derived token has exactly one identifier more per
`append` of its history, none for `seal` and `reload`. -/
theorem revids_count_history (S : SigScheme) (e0 e : BiscuitMsg) (ops : List DeriveOp) (hwf : LibWF e0)
    (h : deriveAll true S e0 ops = .ok e) :
    (revocationIds e).length = (revocationIds e0).length + appends ops := by
  -- `hwf` is part of the statement; the proof does not need it
  have _ := hwf
  exact (deriveAll_revids h).2

/-- …and the first of them are the ancestor's, in order. -/
theorem revids_take_ancestor (S : SigScheme) (e0 e : BiscuitMsg) (ops : List DeriveOp) (hwf : LibWF e0)
    (h : deriveAll true S e0 ops = .ok e) :
    (revocationIds e).take (revocationIds e0).length = revocationIds e0 := by
  obtain ⟨t, ht⟩ := revids_prefix S e0 e ops hwf h
  rw [← ht, List.take_left]

end Biscuit.C17
