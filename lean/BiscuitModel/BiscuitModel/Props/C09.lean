/-
Props/C09 — sealing freezes a token without changing what it authorizes.

Envelope level (`Model/Token`): `sealEnvelope` replaces only the proof. Authorization
reads the blocks, never the proof, so "same authorization outcome" is equality of the
signed blocks (and of what `Unmarshal` parses from them). That the sealed token verifies, and
that a tampered seal does not, rest on C01's characterisation of the chain walk.
-/
import BiscuitModel.Props.C01
import BiscuitModel.Model.Unmarshal

namespace Biscuit.C09
open Biscuit Biscuit.Wire

/-- Sealing changes nothing but the proof: same root key id, same signed blocks. -/
theorem seal_keeps_blocks (S : SigScheme) (e e' : BiscuitMsg) (h : sealEnvelope S e = .ok e') :
    e'.rootKeyId = e.rootKeyId ∧ e'.authority = e.authority ∧ e'.blocks = e.blocks := by
  obtain ⟨sk, _, _, rfl⟩ := sealEnvelopeWith_ok true S e e' h
  exact ⟨rfl, rfl, rfl⟩

/-- What the authorizer evaluates — the parsed blocks — is the same for the sealed token:
any function of the signed blocks (in particular `Unmarshal`'s block parse and hence every
`Authorize` outcome for every authorizer) agrees. -/
theorem seal_same_content (S : SigScheme) (e e' : BiscuitMsg) (h : sealEnvelope S e = .ok e') :
    parseAll (e'.authority :: e'.blocks) = parseAll (e.authority :: e.blocks) := by
  obtain ⟨_, h2, h3⟩ := seal_keeps_blocks S e e' h
  rw [h2, h3]

theorem seal_revocation_same (S : SigScheme) (e e' : BiscuitMsg) (h : sealEnvelope S e = .ok e') :
    revocationIds e' = revocationIds e := by
  obtain ⟨_, h2, h3⟩ := seal_keeps_blocks S e e' h
  simp only [revocationIds, h2, h3]

structure SchemeCorrect (S : SigScheme) : Prop where
  verifies : ∀ sk m, S.verify (S.pub sk) m (S.sign sk m) = true
  pubLen : ∀ sk, (S.pub sk).length = 32

/-- A token that verifies still verifies, under the same root key, once sealed. -/
theorem seal_verifies (S : SigScheme) (hS : SchemeCorrect S) (root : Bytes) (e e' : BiscuitMsg)
    (hv : verifyChain S root e = .ok ()) (h : sealEnvelope S e = .ok e') :
    verifyChain S root e' = .ok () :=
  (C01.verifyChain_iff ..).2 (C01.seal_chainOK hS.verifies ((C01.verifyChain_iff ..).1 hv) h)

/-- A sealed token can be neither extended nor sealed again: both fail with an error. -/
theorem append_sealed_fails (S : SigScheme) (e : BiscuitMsg) (sig : Bytes) (hp : e.proof = .finalSignature sig)
    (block : Bytes) (rng : Rng) : appendEnvelope S e block rng = .error .sealed := by
  simp [appendEnvelope, appendEnvelopeWith, hp]

theorem seal_sealed_fails (S : SigScheme) (e : BiscuitMsg) (sig : Bytes) (hp : e.proof = .finalSignature sig) :
    sealEnvelope S e = .error .sealed := by
  simp [sealEnvelope, sealEnvelopeWith, hp]

/-- The result of sealing is sealed (so the two refusals above apply to it). -/
theorem seal_result_is_sealed (S : SigScheme) (e e' : BiscuitMsg) (h : sealEnvelope S e = .ok e') :
    ∃ sig, e'.proof = .finalSignature sig := by
  obtain ⟨sk, _, _, rfl⟩ := sealEnvelopeWith_ok true S e e' h
  exact ⟨_, rfl⟩

/-- A sealed token whose seal signature, last block or last announced key is altered is
rejected — unless the holder of the last announced secret signed the altered payload
(`Issued`); stated under the explicit unforgeability hypothesis. -/
theorem sealed_tamper_rejected (S : SigScheme) (Issued : Bytes → Bytes → Bytes → Prop)
    (hU : ∀ pk m s, S.verify pk m s = true → Issued pk m s)
    (root : Bytes) (e : BiscuitMsg) (sig : Bytes) (hp : e.proof = .finalSignature sig)
    (hnot : ¬ Issued (lastBlock e).nextKey.key (sealPayload (lastBlock e)) sig) :
    ∃ r, verifyChain S root e = .error r :=
  C01.foreign_proof_rejected S Issued hU root e sig hp hnot

/-- Field values the wire format carries without loss: identifier below 2^32, algorithm tags
below 2^64. -/
def EnvWF (e : BiscuitMsg) : Prop :=
  (∀ i, e.rootKeyId = some i → i < 2^32) ∧
  (∀ sb ∈ e.authority :: e.blocks, sb.nextKey.algorithm < 2^64)

/-- Without a bound on byte-string lengths the round trip is false: `EnvWF` bounds no
length, and the decoder (like protobuf) reads varints of at most ten bytes, i.e. lengths
below 2^70. An authority block of 2^70 zero bytes satisfies `EnvWF` but does not reload. -/
theorem reload_identity_counterexample : EnvWF hugeEnvelope ∧ reload hugeEnvelope = none :=
  ⟨⟨nofun, by simp [hugeEnvelope]⟩, hugeEnvelope_not_reloadable⟩

/-- Well-formed envelopes whose serialization is shorter than 2^64 bytes (every real one)
survive `Serialize` / `Unmarshal` unchanged, so all of the above still holds after
persistence. (`_partial`: the side condition on the length is necessary, see the
counterexample above.) -/
theorem reload_identity_partial (e : BiscuitMsg) (h : EnvWF e) (hlen : (encodeBiscuit e).length < 2^64) :
    reload e = some e :=
  decodeBiscuit_encode_of_length e h.1 h.2 hlen

/-- Without any length condition: a reload that succeeds returns the envelope unchanged. -/
theorem reload_identity_of_some (e e' : BiscuitMsg) (h : EnvWF e) (hr : reload e = some e') : e' = e := by
  rw [reload_some e e' hr, normEnv_eq e h.1 h.2]

end Biscuit.C09
