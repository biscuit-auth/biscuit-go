/-
Props/C14Neg — signed integer literals ("integer is any base-10 int64", parser/GRAMMAR.md).

The production of integer literals is `| @("-"? Int)` (parser/grammar.go, tied by
`Tables.integer_production_signed`): the Operator token `-` directly followed by an Int token
— the lexer elides blanks, so `- 5` is the same two tokens as `-5` — is ONE literal wherever a
TERM is expected.  In the model this is `PTerm.negInt digits`, read by `parseAtomTerm`, rendered
as `[.op "-", .int digits]`, denoted as `-(natOfDigits digits)` if that fits in int64.

The sign is only taken where a term starts; after a complete operand a `-` is the binary operator,
and `--`, `-$x`, `-"a"` are errors.  The file says so for the parser (all digit strings), gives the
range of the conversion (exactly int64; `-0` is `0`, leading zeros are dropped), lets any blank gap
stand between sign and digits, and instantiates the character-level theorems of `C14Text` /
`C14Layout` with signed literals.
-/
import BiscuitModel.Props.C14Text
import BiscuitModel.Props.C14Layout

namespace Biscuit.C14Neg
open Biscuit Biscuit.Grammar Biscuit.Printer Biscuit.Render Biscuit.C14 Biscuit.C14Lexer
open Biscuit.C14Layout Biscuit.C14Text

/-- **The sign and the digits are one term**, whatever the digits, the fuel and what follows. -/
theorem parse_negInt (fuel : Nat) (ds : List Char) (rest : List Tok) :
    parseTerm fuel (.op "-" :: .int ds :: rest) = some (.negInt ds, rest) := rfl

theorem parseAtomTerm_negInt (ds : List Char) (rest : List Tok) :
    parseAtomTerm (.op "-" :: .int ds :: rest) = some (.negInt ds, rest) := rfl

/-- The reference rendering of a signed literal is what the parser reads. -/
theorem parse_negInt_render (fuel : Nat) (ds : List Char) (rest : List Tok) :
    renderTermToks (.negInt ds) = [.op "-", .int ds] ∧
    parseTerm fuel (renderTermToks (.negInt ds) ++ rest) = some (.negInt ds, rest) := ⟨rfl, rfl⟩

/-- A set element may start with the sign: `[-1, 2]`. -/
theorem parse_negInt_in_set (a b : List Char) (rest : List Tok) :
    parseTerm 2 (.punct '[' :: .op "-" :: .int a :: .punct ',' :: .int b :: .punct ']' :: rest) =
      some (.set [.negInt a, .int b], rest) := rfl

/-- Nothing else may follow the sign where a term is expected: not a second sign, a variable, a
string, a parameter, a date, a boolean, bytes, a set, or the end of the input. -/
theorem sign_needs_digits (fuel : Nat) (t : Tok) (rest : List Tok) (h : ∀ ds, t ≠ .int ds) :
    parseTerm fuel (.op "-" :: t :: rest) = none ∧ parseTerm fuel [.op "-"] = none := by
  refine ⟨?_, rfl⟩
  cases t <;> first | rfl | exact absurd rfl (h _)

/-- As an expression the signed literal is an atom (level 7): `parseOr` reads it and stops. -/
theorem parseOr_negInt (ds : List Char) (rest : List Tok) (hr : Stops rest) (fuel : Nat) (hf : fuel ≥ 32) :
    parseOr fuel (.op "-" :: .int ds :: rest) = some (.term (.negInt ds), rest) :=
  parse_render_partial_size (.term (.negInt ds)) trivial rest hr fuel (by simp only [esize]; omega)

theorem parseOr_atom_bin (op : BinOp) (tok : Tok) (hop : binTok op = some tok) (a b : PTerm)
    (hlv : level (.bin op (.term a) (.term b)) ≤ 4) (ha : AtomTermWF a) (hb : AtomTermWF b) :
    parseOr 100 (atomTok a ++ tok :: atomTok b) = some (.bin op (.term a) (.term b), []) := by
  have hw : WF (.bin op (.term a) (.term b)) := by
    refine ⟨termOK_of_atomOK ha, termOK_of_atomOK hb, hlv, ?_⟩
    have l7 : ∀ t, level (.term t) = 7 := fun _ => rfl
    split <;> simp only [l7] <;> omega
  have := parse_render_partial_size _ hw [] trivial 100 (by
    simp only [esize, esize_term_atom ha, esize_term_atom hb]; omega)
  simpa [renderToks, hop, atomTok] using this

/-- After a complete operand `-` is the binary operator: `a -5` subtracts `5`… -/
theorem minus_after_operand (a : PTerm) (ha : AtomTermWF a) (ds : List Char) :
    parseOr 100 (atomTok a ++ [.op "-", .int ds]) =
      some (.bin .sub (.term a) (.term (.int ds)), []) :=
  parseOr_atom_bin .sub _ rfl a (.int ds) (by decide : 3 ≤ 4) ha trivial

/-- …and `a - -5` (also written `a--5`: `--` is two `-` tokens) subtracts the literal `-5`. -/
theorem minus_before_literal (a : PTerm) (ha : AtomTermWF a) (ds : List Char) :
    parseOr 100 (atomTok a ++ [.op "-", .op "-", .int ds]) =
      some (.bin .sub (.term a) (.term (.negInt ds)), []) :=
  parseOr_atom_bin .sub _ rfl a (.negInt ds) (by decide : 3 ≤ 4) ha trivial

/-- After any other infix operator the right operand may carry a sign: `a * -5`, `a > -5`, … -/
theorem sign_after_operator (a : PTerm) (ha : AtomTermWF a) (ds : List Char) :
    parseOr 100 (atomTok a ++ [.op "*", .op "-", .int ds]) =
      some (.bin .mul (.term a) (.term (.negInt ds)), []) ∧
    parseOr 100 (atomTok a ++ [.op ">", .op "-", .int ds]) =
      some (.bin .gt (.term a) (.term (.negInt ds)), []) :=
  ⟨parseOr_atom_bin .mul _ rfl a (.negInt ds) (by decide : 4 ≤ 4) ha trivial,
   parseOr_atom_bin .gt _ rfl a (.negInt ds) (by decide : 2 ≤ 4) ha trivial⟩

theorem guarded_int_eq_some {c : Prop} [Decidable c] (n v : Int) :
    (if c then some (.const (.atom (.int n))) else none : Option (Term Val)) = some (.const (.atom (.int v))) ↔
      v = n ∧ c := by
  by_cases h : c
  · simp only [h, if_true, and_true, Option.some.injEq, Term.const.injEq, Val.atom.injEq, Atom.int.injEq]
    exact eq_comm
  · simp [h]

/-- **The range of a signed literal**: `-(digits)` if the digits are at most `2^63`. -/
theorem denote_negInt_range (ps : Params) (ds : List Char) (v : Int) :
    denoteAtomTerm ps (.negInt ds) = some (.const (.atom (.int v))) ↔
      v = -(natOfDigits ds : Int) ∧ natOfDigits ds ≤ 2 ^ 63 :=
  guarded_int_eq_some _ v

/-- The unsigned literal, for comparison: the digits below `2^63`. -/
theorem denote_int_range (ps : Params) (ds : List Char) (v : Int) :
    denoteAtomTerm ps (.int ds) = some (.const (.atom (.int v))) ↔
      v = (natOfDigits ds : Int) ∧ natOfDigits ds < 2 ^ 63 :=
  guarded_int_eq_some _ v

/-- A signed literal denotes an integer or nothing (never another kind of term). -/
theorem denote_negInt_cases (ps : Params) (ds : List Char) :
    denoteAtomTerm ps (.negInt ds) = none ∨
      ∃ v : Int, denoteAtomTerm ps (.negInt ds) = some (.const (.atom (.int v))) := by
  simp only [denoteAtomTerm]
  by_cases h : natOfDigits ds ≤ 2 ^ 63
  · exact Or.inr ⟨-(natOfDigits ds : Int), by simp [h]⟩
  · exact Or.inl (by simp [h])

/-- **Every integer literal that converts is an int64**, signed or not. -/
theorem denote_integer_int64 (ps : Params) (ds : List Char) (v : Int) :
    (denoteAtomTerm ps (.negInt ds) = some (.const (.atom (.int v))) ∨
     denoteAtomTerm ps (.int ds) = some (.const (.atom (.int v)))) → -(2 ^ 63) ≤ v ∧ v < 2 ^ 63 := by
  rintro (h | h)
  · obtain ⟨rfl, hle⟩ := (denote_negInt_range ps ds v).1 h
    omega
  · obtain ⟨rfl, hlt⟩ := (denote_int_range ps ds v).1 h
    omega

/-- In a term position (not only inside a set) the conversion is the same. -/
theorem denoteTerm_negInt (ps : Params) (ds : List Char) :
    denoteTerm ps (.negInt ds) = denoteAtomTerm ps (.negInt ds) := rfl

/-- The boundary, on digits: `-9223372036854775808` is accepted, `-9223372036854775809` and
`9223372036854775808` are refused; `-0` is `0`; leading zeros are dropped (base 10, not octal). -/
theorem int64_boundary :
    denoteAtomTerm [] (.negInt "9223372036854775808".toList) = some (.const (.atom (.int (-9223372036854775808)))) ∧
    denoteAtomTerm [] (.negInt "9223372036854775809".toList) = none ∧
    denoteAtomTerm [] (.int "9223372036854775808".toList) = none ∧
    denoteAtomTerm [] (.int "9223372036854775807".toList) = some (.const (.atom (.int 9223372036854775807))) ∧
    denoteAtomTerm [] (.negInt ['0']) = some (.const (.atom (.int 0))) ∧
    denoteAtomTerm [] (.negInt "010".toList) = some (.const (.atom (.int (-10)))) := by decide +kernel

def content (s : String) : Option ParsedContent := (parseBlockText s.toList).bind (denoteItems [])

/-- The operator sequences of the checks of a block text (`ToExpr`: postfix). -/
def exprsOf (s : String) : Option (List Expr) :=
  (content s).map fun c => c.checks.flatMap fun ck => ck.queries.flatMap (·.exprs)

def factsOf (s : String) : Option (List (Pred Val)) := (content s).map (·.facts)

def iv (i : Int) : Op := .value (.const (.atom (.int i)))
def f1 (t : Term Val) : Pred Val := { name := strBytes "f", terms := [t] }
def ti (i : Int) : Term Val := .const (.atom (.int i))

/-- Facts: `f(-1)`, a blank after the sign, `-0`, leading zeros, the int64 boundary, a set. -/
theorem negInt_facts :
    factsOf "f(-1);" = some [f1 (ti (-1))] ∧
    factsOf "f(- 5);" = some [f1 (ti (-5))] ∧
    factsOf "f(-0);" = some [f1 (ti 0)] ∧
    factsOf "f(-010);" = some [f1 (ti (-10))] ∧
    factsOf "f(-9223372036854775808);" = some [f1 (ti (-9223372036854775808))] ∧
    factsOf "f([-1, 2]);" = some [f1 (.const (.set [.int (-1), .int 2]))] := by
  -- `String.reduceToList` writes the literals as their characters, so that the kernel does not decode them
  simp only [factsOf, content, parseBlockText_eqC, String.reduceToList]
  decide +kernel

/-- Leading zeros are dropped: `f(-010)` denotes `-10`. -/
theorem leading_zeros_negInt : factsOf "f(-010);" = some [f1 (ti (-10))] :=
  negInt_facts.2.2.2.1

/-- Out of range: the text PARSES (the grammar puts no bound on the digits), the conversion refuses. -/
theorem out_of_range_refused :
    (parseBlockText "f(-9223372036854775809);".toList).isSome = true ∧
    content "f(-9223372036854775809);" = none ∧
    (parseBlockText "f(9223372036854775808);".toList).isSome = true ∧
    content "f(9223372036854775808);" = none := by
  simp only [content, parseBlockText_eqC, String.reduceToList]
  decide +kernel

/-- Two signs, a signed variable, a signed string: no term. -/
theorem sign_rejections :
    parseBlockText "f(--1);".toList = none ∧
    parseBlockText "f(-$x);".toList = none ∧
    parseBlockText "f(-\"a\");".toList = none ∧
    parseBlockText "f(-);".toList = none ∧
    parseBlockText "f(-[1]);".toList = none := by
  simp only [parseBlockText_eqC, String.reduceToList]
  decide +kernel

/-- **After a complete operand `-` is the binary operator; where a term starts it is the sign.**
The postfix operator sequences, text by text. -/
theorem minus_after_operand_is_binary :
    exprsOf "check if $x > -5;" = some [[.value (.var (strBytes "x")), iv (-5), .binary .gt]] ∧
    exprsOf "check if $x -5 > 0;" =
      some [[.value (.var (strBytes "x")), iv 5, .binary .sub, iv 0, .binary .gt]] ∧
    exprsOf "check if 1 - -5 == 6;" = some [[iv 1, iv (-5), .binary .sub, iv 6, .binary .eq]] ∧
    exprsOf "check if 1--5 == 6;" = some [[iv 1, iv (-5), .binary .sub, iv 6, .binary .eq]] ∧
    exprsOf "check if -5 - 3 == -8;" = some [[iv (-5), iv 3, .binary .sub, iv (-8), .binary .eq]] ∧
    exprsOf "check if 2 * -3 == -6;" = some [[iv 2, iv (-3), .binary .mul, iv (-6), .binary .eq]] ∧
    exprsOf "check if !-5 == 1;" = some [[iv (-5), .unary .negate, iv 1, .binary .eq]] ∧
    exprsOf "check if (-5).length() == 1;" =
      some [[iv (-5), .unary .parens, .unary .length, iv 1, .binary .eq]] ∧
    exprsOf "check if -5.length()==1;" = some [[iv (-5), .unary .length, iv 1, .binary .eq]] ∧
    parseBlockText "f(--1);".toList = none ∧
    parseBlockText "f(-$x);".toList = none := by
  simp only [exprsOf, content, parseBlockText_eqC, String.reduceToList]
  decide +kernel

/-- The same distinction on tokens: `$x -5` and `$x - 5` are the same three tokens; `1--5` and
`1 - -5` the same four. -/
theorem minus_tokens :
    lex "$x -5".toList = some [.var "x", .op "-", .int ['5']] ∧
    lex "$x - 5".toList = some [.var "x", .op "-", .int ['5']] ∧
    lex "1--5".toList = some [.int ['1'], .op "-", .op "-", .int ['5']] ∧
    lex "1 - -5".toList = some [.int ['1'], .op "-", .op "-", .int ['5']] ∧
    lex "-5".toList = some [.op "-", .int ['5']] ∧
    lex "- 5".toList = some [.op "-", .int ['5']] := by
  simp only [lex_eq, String.reduceToList]
  decide +kernel

/-- **Any blank gap — also none — between the sign and the digits** gives the same two tokens. -/
theorem lex_sign_gap (ds : List Char) (hd : TokWF (.int ds)) (g : List Char) (hg : g.all isBlank = true) :
    lex ('-' :: (g ++ ds)) = some [.op "-", .int ds] := by
  refine lex_of_layout _ [] [g] [.op "-", .int ds] (by simp [spellWith, spellTok]) rfl ?_ ?_
  · intro t ht
    simp only [List.mem_cons, List.not_mem_nil, or_false] at ht
    rcases ht with rfl | rfl
    · decide
    · exact hd
  · show layoutOK [g] [.op "-", .int ds] = true
    simp only [layoutOK, hg, needSep_minus_int ds hd, Bool.not_false, Bool.or_true, Bool.and_self]

/-- `lexically well formed` asks of a signed literal what it asks of an unsigned one. -/
theorem atomLexOK_negInt (ds : List Char) : atomLexOK (.negInt ds) = atomLexOK (.int ds) := rfl

example : termLexOK (.negInt ['1']) = true := by decide +kernel
example : termLexOK (.negInt []) = false := by decide +kernel
example : termLexOK (.negInt "-1".toList) = false := by decide +kernel
example : termLexOK (.set [.negInt ['1'], .int ['2']]) = true := by decide +kernel

/-- A fact, a rule and a check with signed literals in every position (argument, set element, operand of
a comparison, of `-`, of `*`, of `!`, parenthesised receiver). -/
def negItems : List PItem :=
  [ .fact ⟨"f", [.negInt ['1'], .set [.negInt ['1'], .int ['2']]]⟩,
    .rule ⟨⟨"g", [.var "x"]⟩, [.pred ⟨"f", [.var "x", .negInt ['7']]⟩,
      .expr (.bin .gt (.term (.var "x")) (.term (.negInt ['5'])))]⟩,
    .check ⟨[[.expr (.bin .eq (.bin .sub (.term (.int ['1'])) (.term (.negInt ['5']))) (.term (.int ['6']))),
      .expr (.bin .eq (.bin .mul (.term (.int ['2'])) (.term (.negInt ['3']))) (.term (.negInt ['6']))),
      .expr (.bin .eq (.neg (.term (.negInt ['5']))) (.term (.int ['1']))),
      .expr (.bin .eq (.length (.paren (.term (.negInt ['5'])))) (.term (.int ['1'])))]]⟩ ]

/-- Through `C14Text.parseBlockText_roundtrip` (every token followed by one space: `- 1`). -/
theorem negInt_block_roundtrip : parseBlockText (spell (renderItems negItems)) = some negItems :=
  parseBlockText_roundtrip negItems (hwf := by decide +kernel) (hlex := by decide +kernel) (hnp := by decide +kernel)

theorem negItems_spelling : String.ofList (spell (renderItems negItems)) =
    "f ( - 1 , [ - 1 , 2 ] ) ; g ( $x ) <- f ( $x , - 7 ) , $x > - 5 ; " ++
    "check if 1 - - 5 == 6 , 2 * - 3 == - 6 , ! - 5 == 1 , ( - 5 ) . length ( ) == 1 ; " :=
  -- compared as character lists: the two literals are `String.ofList` of their characters
  (congrArg String.ofList (by decide +kernel)).trans String.ofList_append

/-- The printed style (`f(-1, [-1, 2]);`, no blank after a sign, one around a binary minus) lexes to
the same tokens, hence parses to the same items (by evaluation). -/
theorem negInt_text_roundtrip :
    lex ("f(-1, [-1, 2]);\ng($x) <- f($x, -7), $x > -5;\n" ++
      "check if 1 - -5 == 6, 2 * -3 == -6, !-5 == 1, (-5).length() == 1;").toList =
      some (renderItems negItems) ∧
    (parseBlockText ("f(-1, [-1, 2]);\ng($x) <- f($x, -7), $x > -5;\n" ++
      "check if 1 - -5 == 6, 2 * -3 == -6, !-5 == 1, (-5).length() == 1;").toList).map renderItems =
      some (renderItems negItems) := by
  rw [toList_append_lit]
  simp only [lex_eq, parseBlockText_eqC]
  decide +kernel

end Biscuit.C14Neg

#print axioms Biscuit.C14Neg.parse_negInt
#print axioms Biscuit.C14Neg.parseAtomTerm_negInt
#print axioms Biscuit.C14Neg.parse_negInt_render
#print axioms Biscuit.C14Neg.parse_negInt_in_set
#print axioms Biscuit.C14Neg.sign_needs_digits
#print axioms Biscuit.C14Neg.parseOr_negInt
#print axioms Biscuit.C14Neg.minus_after_operand
#print axioms Biscuit.C14Neg.minus_before_literal
#print axioms Biscuit.C14Neg.sign_after_operator
#print axioms Biscuit.C14Neg.denote_negInt_range
#print axioms Biscuit.C14Neg.denote_int_range
#print axioms Biscuit.C14Neg.denote_negInt_cases
#print axioms Biscuit.C14Neg.denote_integer_int64
#print axioms Biscuit.C14Neg.int64_boundary
#print axioms Biscuit.C14Neg.negInt_facts
#print axioms Biscuit.C14Neg.leading_zeros_negInt
#print axioms Biscuit.C14Neg.out_of_range_refused
#print axioms Biscuit.C14Neg.sign_rejections
#print axioms Biscuit.C14Neg.minus_after_operand_is_binary
#print axioms Biscuit.C14Neg.minus_tokens
#print axioms Biscuit.C14Neg.lex_sign_gap
#print axioms Biscuit.C14Neg.negInt_block_roundtrip
#print axioms Biscuit.C14Neg.negItems_spelling
#print axioms Biscuit.C14Neg.negInt_text_roundtrip
