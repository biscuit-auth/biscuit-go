/-
Props/C06 — expressions are total, typed and arithmetically exact.

Statements about `Model/Expr` (`eval`, `evalBinary`, `evalUnary`) and the set
operations of `Model/Value`. `cfg.div = .exact` / `cfg.sets = .loops` is the
repaired library; `.pinned` / `.pinnedMaps` is the behaviour of the pinned one,
kept so that the witnesses D1, D2, D3 stay machine-checked. The typing tables `accepts` and
`acceptsUnary` and the stack depth `depthAfter` are declared in Proofs/Expr.
-/
import BiscuitModel.Proofs.Expr
import BiscuitModel.Props.C12Sets

namespace Biscuit.C06
open Biscuit

/-- **C06, totality.** Evaluation never panics (repaired set operations), for every operator
sequence — well-formed or not — every binding, every regex oracle and either
division mode. (`eval` is a total Lean function, so "returns a value or an
error" is its type.) -/
theorem eval_no_panic (cfg : EvalCfg) (hs : cfg.sets = .loops) (σ : Bindings Val) (e : Expr) :
    (eval cfg σ e).isPanic = false := by
  exact eval_no_panic' cfg hs σ e

/-- D2, pinned: equality of two sets of byte arrays panics. -/
theorem pinned_set_equal_panics :
    eval { rx := fun _ _ => none, sets := .pinnedMaps } []
      [.value (.const (.set [.bytes [1]])), .value (.const (.set [.bytes [1]])), .binary .eq]
      = .panic .unhashableSetKey := by
  decide

/-! Arithmetic is exact or an error; never wrapped. -/

/-- The mathematical result of an arithmetic operator (`/` truncates toward zero, as Go). -/
def exact : BinOp → Int → Int → Int
  | .add, a, b => a + b
  | .sub, a, b => a - b
  | .mul, a, b => a * b
  | .div, a, b => Int.tdiv a b
  | _, _, _ => 0

def isArith (op : BinOp) : Bool := op = .add || op = .sub || op = .mul || op = .div

theorem arith_exact (cfg : EvalCfg) (hd : cfg.div = .exact) (op : BinOp) (hop : isArith op = true)
    (a b : Int) :
    evalBinary cfg op (.atom (.int a)) (.atom (.int b)) =
      if op = .div ∧ b = 0 then .err .divzero
      else if inI64 (exact op a b) then .ok (.atom (.int (exact op a b)))
      else .err .overflow := by
  have hop' : ((op = .add ∨ op = .sub) ∨ op = .mul) ∨ op = .div := by simpa [isArith] using hop
  rcases hop' with ((rfl | rfl) | rfl) | rfl
  · rw [if_neg (fun h => nomatch h.1)]; rfl
  · rw [if_neg (fun h => nomatch h.1)]; rfl
  · rw [if_neg (fun h => nomatch h.1)]; rfl
  · -- `/`: the zero test comes first, then the checked quotient (`cfg.div = .exact`)
    show (if b = 0 then .err .divzero else match cfg.div with
      | .exact => checkedInt (Int.tdiv a b)
      | .pinned => .ok (.atom (.int (wrapI64 (Int.tdiv a b))))) = _
    rw [hd]
    by_cases hb : b = 0
    · rw [if_pos hb, if_pos ⟨rfl, hb⟩]
    · rw [if_neg hb, if_neg (fun h => hb h.2)]; rfl

/-- "A wrapped value is never produced": whatever an arithmetic operator returns
as a value is the mathematical result and fits in 64 bits. -/
theorem arith_never_wraps (cfg : EvalCfg) (hd : cfg.div = .exact) (op : BinOp)
    (hop : isArith op = true) (a b : Int) (v : Val)
    (h : evalBinary cfg op (.atom (.int a)) (.atom (.int b)) = .ok v) :
    v = .atom (.int (exact op a b)) ∧ inI64 (exact op a b) = true := by
  rw [arith_exact cfg hd op hop a b] at h
  split at h
  · cases h
  · split at h
    · rename_i hin
      cases h
      exact ⟨rfl, hin⟩
    · cases h

/-- Go's machine division is the mathematical truncated division exactly under
the guard that the fix adds. -/
theorem goDiv_exact (a b : BitVec 64) (hb : b ≠ 0#64)
    (h : ¬ (a = BitVec.intMin 64 ∧ b = -1#64)) :
    (a.sdiv b).toInt = Int.tdiv a.toInt b.toInt := by
  have _ := hb  -- kept in the statement; not needed by the proof
  apply BitVec.toInt_sdiv_of_ne_or_ne
  by_cases ha : a = BitVec.intMin 64
  · right; intro hb'; exact h ⟨ha, hb'⟩
  · left; exact ha

/-- …and without the guard it wraps: `MinInt64 / -1 = MinInt64`. -/
theorem goDiv_wraps : ((BitVec.intMin 64).sdiv (-1#64)).toInt = i64Min := by
  decide

/-- `wrapI64 (tdiv a b)` of the `.pinned` mode is Go's `int64 /` on in-range operands. -/
theorem pinned_div_is_machine_div (a b : Int) (ha : inI64 a = true) (hb : inI64 b = true)
    (hb0 : b ≠ 0) :
    wrapI64 (Int.tdiv a b) = ((BitVec.ofInt 64 a).sdiv (BitVec.ofInt 64 b)).toInt := by
  by_cases hc : a = i64Min ∧ b = -1
  · obtain ⟨rfl, rfl⟩ := hc
    decide
  · rw [BitVec.toInt_sdiv_of_ne_or_ne _ _ (machine_div_guard a b ha hb hc),
      toInt_ofInt_of_inI64 a ha, toInt_ofInt_of_inI64 b hb,
      wrapI64_of_inI64 _ (tdiv_inI64 a b ha hb0 hc)]

/-- D1, pinned: the wrapped quotient is returned as a value. -/
theorem pinned_div_wraps (rx : Regex) :
    evalBinary { rx := rx, div := .pinned } .div (.atom (.int i64Min)) (.atom (.int (-1)))
      = .ok (.atom (.int i64Min)) := by
  show (if (-1 : Int) = 0 then Outcome.err .divzero
    else Outcome.ok (Val.atom (.int (wrapI64 (Int.tdiv i64Min (-1)))))) = _
  decide

/-- …whereas the repaired machine reports it. -/
theorem exact_div_overflow (rx : Regex) :
    evalBinary { rx := rx, div := .exact } .div (.atom (.int i64Min)) (.atom (.int (-1)))
      = .err .overflow := by
  show (if (-1 : Int) = 0 then Outcome.err .divzero else checkedInt (Int.tdiv i64Min (-1))) = _
  decide

/-- A binary operator reports a type error exactly on operand types outside its table. -/
theorem typing_table (cfg : EvalCfg) (hs : cfg.sets = .loops) (op : BinOp) (l r : Val) :
    evalBinary cfg op l r = .err .type ↔ accepts op l.type r.type = false := by
  obtain ⟨rx, dv, sets⟩ := cfg
  cases hs
  rw [← Outcome.cls_eq_typeErr, evalBinary_cls]
  cases accepts op l.type r.type <;> decide

theorem typing_table_unary (op : UnOp) (v : Val) :
    evalUnary op v = .err .type ↔ acceptsUnary op v.type = false := by
  rw [← Outcome.cls_eq_typeErr, (evalUnary_table op v).2]
  cases acceptsUnary op v.type <;> decide

/-- Well-typed unary operators always produce a value. -/
theorem unary_total (op : UnOp) (v : Val) (h : acceptsUnary op v.type = true) :
    ∃ w, evalUnary op v = .ok w := by
  rw [← Outcome.isOk_iff, (evalUnary_table op v).1, h]

/-- A value is produced only by a sequence that is well-formed postfix of depth ≤ 1000
leaving exactly one operand. -/
theorem ok_implies_wellformed (cfg : EvalCfg) (σ : Bindings Val) (e : Expr) (v : Val)
    (h : eval cfg σ e = .ok v) : depthAfter e 0 = some 1 := by
  obtain ⟨st, h1, h2⟩ := Outcome.bind_eq_ok h
  have := runOps_ok_depth cfg σ e [] st h1
  match st, h2 with
  | [w], _ => exact this
  | [], h2 => cases h2
  | _ :: _ :: _, h2 => cases h2

/-- Malformed sequences (underflow, leftover operands, depth > 1000) are errors. -/
theorem malformed_is_error (cfg : EvalCfg) (hs : cfg.sets = .loops) (σ : Bindings Val) (e : Expr)
    (h : depthAfter e 0 ≠ some 1) : ∃ c, eval cfg σ e = .err c := by
  cases hr : eval cfg σ e with
  | ok v => exact absurd (ok_implies_wellformed cfg σ e v hr) h
  | err c => exact ⟨c, rfl⟩
  | panic s =>
    have := eval_no_panic cfg hs σ e
    rw [hr] at this
    cases this

/-- An unbound variable is an error. -/
theorem unbound_variable_is_error (cfg : EvalCfg) (σ : Bindings Val) (n : Bytes)
    (h : σ.lookup n = none) (pre post : List Op) (st : List Val)
    (hpre : runOps cfg σ pre [] = .ok st) :
    eval cfg σ (pre ++ .value (.var n) :: post) = .err .unknownVar := by
  unfold eval
  rw [runOps_append, hpre]
  show ((stepOp cfg σ st (.value (.var n))).bind (runOps cfg σ post)).bind _ = _
  rw [stepOp_unbound cfg σ n h st]
  rfl

/-! Set operations compute the mathematical operations on duplicate-free lists. -/

theorem setUnion_spec (s t : List Atom) (x : Atom) : x ∈ setUnion s t ↔ x ∈ s ∨ x ∈ t := by
  simp only [setUnion, List.mem_append, List.mem_filter, Bool.not_eq_true', List.contains_eq_mem,
    decide_eq_false_iff_not]
  by_cases hx : x ∈ s <;> simp [hx]

theorem setUnion_nodup (s t : List Atom) (hs : s.Nodup) (ht : t.Nodup) : (setUnion s t).Nodup :=
  C12Sets.union_nodup s t hs ht

theorem setIntersect_spec (s t : List Atom) (x : Atom) : x ∈ setIntersect s t ↔ x ∈ s ∧ x ∈ t := by
  simp [setIntersect, List.mem_filter]

theorem setIntersect_nodup (s t : List Atom) (hs : s.Nodup) : (setIntersect s t).Nodup :=
  C12Sets.intersect_nodup s t hs

theorem setIncludes_spec (s sub : List Atom) : setIncludes s sub = true ↔ ∀ x ∈ sub, x ∈ s := by
  simp [setIncludes]

/-- On duplicate-free lists `Set.Equal` is extensional set equality. -/
theorem setEqual_spec (s t : List Atom) (hs : s.Nodup) (ht : t.Nodup) :
    setEqual s t = true ↔ ∀ x, x ∈ s ↔ x ∈ t :=
  C12Sets.setEqual_iff s t hs ht

/-- The repaired `Set.Equal` is symmetric on all lists. -/
theorem setEqual_symm (s t : List Atom) : setEqual s t = setEqual t s := by
  simp only [setEqual]
  rw [Bool.and_assoc, Bool.and_assoc, Bool.and_comm (s.all _), show (s.length == t.length) = (t.length == s.length) from Bool.beq_comm]

/-- The pinned algorithm (one-directional containment) coincides with the repaired
one on duplicate-free, bytes-free lists… -/
theorem setEqualPinned_eq_on_nodup (s t : List Atom) (hs : s.Nodup) (ht : t.Nodup)
    (hbs : ∀ x ∈ s, x.type ≠ .bytes) (hbt : ∀ x ∈ t, x.type ≠ .bytes) :
    setEqualPinned s t = .ok (setEqual s t) := by
  have _ := ht  -- kept in the statement; not needed by the proof
  have hnt : (t.any fun x => x.type == .bytes) = false := by
    simpa using hbt
  have hns : (s.any fun x => x.type == .bytes) = false := by
    simpa using hbs
  unfold setEqualPinned
  by_cases hl : s.length = t.length
  · have hne : (s.length != t.length) = false := by simp [hl]
    simp only [hne, hnt, hns, Bool.false_eq_true, if_false]
    congr 1
    cases hall : s.all (fun x => t.contains x) with
    | false =>
      symm
      simp only [setEqual, hall, Bool.and_false, Bool.false_and]
    | true =>
      symm
      rw [setEqual_iff]
      have h1 : ∀ x ∈ s, x ∈ t := by simpa using hall
      exact ⟨hl, h1, subset_of_nodup_of_length_le hs h1 (by omega)⟩
  · have hne : (s.length != t.length) = true := by simp [hl]
    have : setEqual s t = false := by simp [setEqual, hl]
    simp [hne, this]

/-- …and not otherwise (D3): with a repeated element it is asymmetric. -/
theorem setEqualPinned_asymmetric :
    setEqualPinned [.int 1, .int 1] [.int 1, .int 2] = .ok true ∧
    setEqualPinned [.int 1, .int 2] [.int 1, .int 1] = .ok false := by
  decide

/-! String operations are the byte-string operations. -/

theorem bytesContains_spec (a b : Bytes) : bytesContains a b = true ↔ ∃ p q, a = p ++ b ++ q := by
  induction a with
  | nil =>
    simp only [bytesContains]
    constructor
    · intro h
      have : b = [] := by simpa using h
      exact ⟨[], [], by simp [this]⟩
    · rintro ⟨p, q, h⟩
      have h' := h.symm
      simp at h'
      simp [h'.2.1]
  | cons x xs ih =>
    simp only [bytesContains, Bool.or_eq_true, ih, List.isPrefixOf_iff_prefix]
    constructor
    · rintro (⟨q, hq⟩ | ⟨p, q, h⟩)
      · exact ⟨[], q, by simp [hq]⟩
      · exact ⟨x :: p, q, by simp [h]⟩
    · rintro ⟨p, q, h⟩
      cases p with
      | nil => left; exact ⟨q, by simpa using h.symm⟩
      | cons y p =>
        right
        simp at h
        exact ⟨p, q, by simp [h.2]⟩

theorem prefix_spec (cfg : EvalCfg) (a b : Bytes) :
    ∃ r, evalBinary cfg .pfx (.atom (.str a)) (.atom (.str b)) = .ok (.atom (.bool r)) ∧
      (r = true ↔ ∃ q, a = b ++ q) := by
  refine ⟨b.isPrefixOf a, rfl, ?_⟩
  rw [List.isPrefixOf_iff_prefix]
  exact exists_congr fun _ => eq_comm

theorem suffix_spec (cfg : EvalCfg) (a b : Bytes) :
    ∃ r, evalBinary cfg .sfx (.atom (.str a)) (.atom (.str b)) = .ok (.atom (.bool r)) ∧
      (r = true ↔ ∃ p, a = p ++ b) := by
  refine ⟨b.isSuffixOf a, rfl, ?_⟩
  rw [List.isSuffixOf_iff_suffix]
  exact exists_congr fun _ => eq_comm

theorem concat_spec (cfg : EvalCfg) (a b : Bytes) :
    evalBinary cfg .add (.atom (.str a)) (.atom (.str b)) = .ok (.atom (.str (a ++ b))) := by
  rfl

/-- `length` of a string is its length in bytes ("é" has length 2). -/
theorem length_bytes : evalUnary .length (.atom (.str [0xc3, 0xa9])) = .ok (.atom (.int 2)) := by
  rfl

/-! Booleans are strict; comparisons are the orders on ℤ and ℕ. -/

theorem and_spec (cfg : EvalCfg) (a b : Bool) :
    evalBinary cfg .and (.atom (.bool a)) (.atom (.bool b)) = .ok (.atom (.bool (a && b))) := by
  rfl

theorem or_spec (cfg : EvalCfg) (a b : Bool) :
    evalBinary cfg .or (.atom (.bool a)) (.atom (.bool b)) = .ok (.atom (.bool (a || b))) := by
  rfl

/-- Strictness: an ill-typed right operand of `||` is an error even when the left is `true`. -/
theorem or_strict (cfg : EvalCfg) (i : Int) :
    evalBinary cfg .or (.atom (.bool true)) (.atom (.int i)) = .err .type := by
  rfl

theorem lt_int_spec (cfg : EvalCfg) (a b : Int) :
    evalBinary cfg .lt (.atom (.int a)) (.atom (.int b)) = .ok (.atom (.bool (decide (a < b)))) := by
  rfl

theorem le_date_spec (cfg : EvalCfg) (a b : Nat) :
    evalBinary cfg .le (.atom (.date a)) (.atom (.date b)) = .ok (.atom (.bool (decide (a ≤ b)))) := by
  rfl

/-! Non-vacuity: a concrete well-formed expression with every shape of step. -/

/-- `!( (1 + 2) * 3 <= 9 ) || "ab".starts_with("a")` in postfix evaluates to `true`. -/
example :
    eval { rx := fun _ _ => none } []
      [ .value (.const (.atom (.int 1))), .value (.const (.atom (.int 2))), .binary .add, .unary .parens,
        .value (.const (.atom (.int 3))), .binary .mul, .value (.const (.atom (.int 9))), .binary .le,
        .unary .parens, .unary .negate,
        .value (.const (.atom (.str [97, 98]))), .value (.const (.atom (.str [97]))), .binary .pfx,
        .binary .or ]
      = .ok (.atom (.bool true)) := by
  decide

end Biscuit.C06
