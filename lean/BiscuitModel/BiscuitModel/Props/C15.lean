/-
Props/C15 — the printed form of a block is faithful to what is enforced.

Token level (as C14): `printToks` is the string-stack machine of `Expression.Print`
producing tokens. The character-level printer `print*` is taken through lexer, parser and
denotation in `Props/C15Text`; it is compared with `Biscuit.Code()` by the PRINT verb of the
driver.

Sets of strings are outside the domain of C15: inside a set the library prints a string as its
symbol index (`#1024`), which does not parse back, while the model prints set elements through
`printAtom`, quoted.
-/
import BiscuitModel.Proofs.Grammar
import BiscuitModel.Props.C14

namespace Biscuit.C15
open Biscuit Biscuit.Grammar Biscuit.Printer

/-- Infix nodes carry infix operators, method nodes method operators: all that the stack printer needs
to re-render a tree.  Weaker than `C14.WF` (`wf_opsOK`), which also fixes where parentheses are needed. -/
def OpsOK : PExpr → Prop
  | .term _ => True
  | .paren e => OpsOK e
  | .neg e => OpsOK e
  | .bin op l r => (binTok op).isSome ∧ OpsOK l ∧ OpsOK r
  | .method op recv arg => C14.isMethodOp op = true ∧ OpsOK recv ∧ OpsOK arg
  | .length recv => OpsOK recv

/-- The invariant of the stack machine: the postfix of a tree pushes its rendering. -/
theorem print_is_render_stack (e : PExpr) (h : OpsOK e) (ops : List POp) (st : List (List Tok)) :
    printToks (toPostfix e ++ ops) st = printToks ops (renderToks e :: st) := by
  induction e generalizing ops st with
  | term t => rfl
  | paren e ih => simp only [toPostfix, List.append_assoc, ih h]; rfl
  | neg e ih => simp only [toPostfix, List.append_assoc, ih h]; rfl
  | bin op l r ihl ihr =>
    obtain ⟨hb, hl, hr⟩ := h
    obtain ⟨t, ht⟩ := Option.isSome_iff_exists.mp hb
    simp only [toPostfix, List.append_assoc, ihl hl, ihr hr]
    simp [printToks, printBinaryToks, renderToks, ht]
  | method op recv arg ihr iha =>
    obtain ⟨hm, hr, ha⟩ := h
    have hb : binTok op = none := by cases op <;> first | rfl | simp [C14.isMethodOp] at hm
    simp only [toPostfix, List.append_assoc, ihr hr, iha ha]
    simp [printToks, printBinaryToks, renderToks, hb]
  | length recv ih => simp only [toPostfix, List.append_assoc, ih h]; rfl

/-- **The printer inverts the postfix emission.** For every tree whose nodes carry the right kind of
operator (`OpsOK`), printing the postfix sequence with the stack machine re-renders the tree: parentheses appear exactly where the
sequence has `Parens` operators, operators are printed infix / as method calls. -/
theorem print_is_render (e : PExpr) (h : OpsOK e) :
    printToks (toPostfix e) [] = some (renderToks e) := by
  simpa [printToks] using print_is_render_stack e h [] []

/-- Well-formed trees use infix operators infix and method operators as methods. -/
theorem wf_opsOK (e : PExpr) (h : C14.WF e) : OpsOK e := by
  induction e with
  | term t => trivial
  | paren e ih => exact ih h
  | neg e ih => exact ih h.1
  | bin op l r ihl ihr =>
    refine ⟨?_, ihl h.1, ihr h.2.1⟩
    have h4 : C14.level (.bin op l r) ≤ 4 := h.2.2.1
    cases op <;> first | rfl | (simp [C14.level] at h4)
  | method op recv arg ihr iha => exact ⟨h.1, ihr h.2.1, iha h.2.2.1⟩
  | length recv ih => exact ih h.1

/-- **C15 (expressions), token level.** What is printed for an expression written in the
documented grammar parses back to the same tree, hence to the same operator sequence. -/
theorem print_parse_roundtrip_partial (e : PExpr) (hwf : C14.WF e) (toks : List Tok)
    (hp : printToks (toPostfix e) [] = some toks) (rest : List Tok) (hr : C14.Stops rest)
    (fuel : Nat) (hf : fuel ≥ 16 * toks.length + 16) :
    (parseOr fuel (toks ++ rest)).map (fun r => toPostfix r.1) = some (toPostfix e) := by
  have hr' := print_is_render e (wf_opsOK e hwf)
  rw [hr'] at hp
  cases hp
  exact C14.postfix_of_parse e hwf rest hr fuel hf

/-- The model printer has no failure outcome: `printExpr` is a function into texts, and an ill-formed
operator sequence prints as `<invalid expression>` (`print_invalid_on_underflow`).  The statement
below says no more than that: it holds of any function. -/
theorem print_total (e : Expr) : ∃ s, printExpr e = s := by
  exact ⟨_, rfl⟩

theorem print_invalid_on_underflow : printExpr [.binary .add] = "<invalid expression>".toList := by
  decide +kernel

/-- A `paren` node renders as one pair of parentheses around its subtree (with `print_is_render`:
a `Parens` operator prints as exactly that). -/
theorem parens_are_preserved (e : PExpr) :
    renderToks (.paren e) = [.punct '('] ++ renderToks e ++ [.punct ')'] := by
  rfl

/-- Dates from 1970 print in RFC 3339 and read back to the same instant (samples; every instant
before the year 10000: `PrintDates.printDate_roundtrip`). -/
theorem date_print_parse_samples :
    unixOfDate (printDate 0) = some 0 ∧ unixOfDate (printDate 951782400) = some 951782400 ∧
    unixOfDate (printDate 1709164800) = some 1709164800 ∧ unixOfDate (printDate 4102444800) = some 4102444800 := by
  decide +kernel

/-! Non-vacuity: a rule printed by the character-level printer. -/
def sampleRule : DRule :=
  { head := { name := strBytes "right", terms := [Term.var (strBytes "f"), Term.const (Val.atom (Atom.str (strBytes "read")))] }
    body := [{ name := strBytes "owner", terms := [Term.var (strBytes "u"), Term.var (strBytes "f")] }]
    exprs := [[Op.value (Term.var (strBytes "u")), Op.value (Term.const (Val.atom (Atom.str (strBytes "alice")))), Op.binary BinOp.eq]] }

theorem sample_print :
    String.ofList (printRule sampleRule) = "right($f, \"read\") <- owner($u, $f), $u == \"alice\"" :=
  ofList_lit (by decide +kernel)

end Biscuit.C15
