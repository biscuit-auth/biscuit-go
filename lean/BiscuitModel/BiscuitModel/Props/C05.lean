/-
Props/C05 — Datalog evaluation computes exactly the least fixpoint.

Only property theorems live here; the lemmas behind them are in `Proofs/Datalog`.
Statements are about `Model/Datalog`, generic in the value type and in the expression
evaluator.
-/
import BiscuitModel.Proofs.Datalog

namespace Biscuit.C05
open Biscuit

variable {V E : Type} [DecidableEq V]

/-- **C05, second sentence (QueryRule is exact).** If applying a rule to a fact list completes
without error, the produced facts are exactly the head instances of the substitutions that match
every body predicate consistently and make every expression true (`Sat`). No hypothesis on the
rule: arity 0, constants, repeated variables, self-joins, empty bodies and fact lists included. -/
theorem applyRule_exact (ev : Bindings V → E → Outcome Bool) (hev : EvRespects ev)
    (r : Rule V E) (S acc out : List (Fact V))
    (h : applyRule ev r S acc = (out, none)) (f : Fact V) :
    f ∈ out ↔ f ∈ acc ∨ ∃ σ, Sat ev r S σ ∧ instPred r.head σ = some f :=
  applyRule_spec ev hev r S acc out h f

/-- `World.QueryRule` returns exactly the satisfying head instances. -/
theorem queryRule_exact (ev : Bindings V → E → Outcome Bool) (hev : EvRespects ev)
    (r : Rule V E) (S : List (Fact V))
    (h : (applyRule ev r S []).2 = none) (f : Fact V) :
    f ∈ queryRule ev r S ↔ ∃ σ, Sat ev r S σ ∧ instPred r.head σ = some f :=
  mem_queryRule ev hev r S h f

/-- **Soundness**: a run that completes without error contains only derivable facts. -/
theorem run_ok_sound (ev : Bindings V → E → Outcome Bool) (hev : EvRespects ev)
    (maxFacts maxIter : Nat) (P : List (Rule V E)) (F W : List (Fact V))
    (h : run ev maxFacts P maxIter F = (W, none)) :
    ∀ f ∈ W, Derivable ev P F f :=
  run_sound ev hev maxFacts P maxIter F W h

/-- **Completeness**: a run that completes without error contains every derivable fact. -/
theorem run_ok_complete (ev : Bindings V → E → Outcome Bool) (hev : EvRespects ev)
    (maxFacts maxIter : Nat) (P : List (Rule V E)) (F W : List (Fact V))
    (h : run ev maxFacts P maxIter F = (W, none)) :
    ∀ f, Derivable ev P F f → f ∈ W :=
  run_complete ev hev maxFacts P maxIter F W h

/-- **C05, first sentence**: the result of an error-free run is, as a set, exactly
the least model, for every program — recursion and mutual recursion included —
and the fact list stays duplicate-free. The only hypothesis is the property's own
"to completion without error". -/
theorem run_ok_closure (ev : Bindings V → E → Outcome Bool) (hev : EvRespects ev)
    (maxFacts maxIter : Nat) (P : List (Rule V E)) (F W : List (Fact V))
    (hF : F.Nodup)
    (h : run ev maxFacts P maxIter F = (W, none)) :
    (∀ f, f ∈ W ↔ Derivable ev P F f) ∧ W.Nodup :=
  ⟨fun f => ⟨run_sound ev hev maxFacts P maxIter F W h f,
             run_complete ev hev maxFacts P maxIter F W h f⟩,
   run_nodup ev maxFacts P maxIter F W hF h⟩

/-- `Derivable` really is the *least* model: any set that contains the initial
facts and is closed under the rules contains every derivable fact. -/
theorem derivable_is_least (ev : Bindings V → E → Outcome Bool)
    (P : List (Rule V E)) (F : List (Fact V)) (M : Fact V → Prop)
    (hbase : ∀ f ∈ F, M f)
    (hclosed : ∀ r ∈ P, ∀ σ f,
      (∀ p ∈ r.body, ∃ g, instPred p σ = some g ∧ M g) →
      (∀ n v, σ.lookup n = some v → n ∈ bodyVars r.body) →
      checkExprs ev σ r.exprs = .ok true →
      instPred r.head σ = some f → M f) :
    ∀ f, Derivable ev P F f → M f :=
  derivable_least ev P F M hbase hclosed

/-- A successful run is a fixpoint: one more round adds nothing (consumed by C11). -/
theorem run_ok_is_fixpoint (ev : Bindings V → E → Outcome Bool)
    (maxFacts maxIter : Nat) (P : List (Rule V E)) (F W : List (Fact V))
    (h : run ev maxFacts P maxIter F = (W, none)) :
    ∃ new, stepAll ev W P [] = (new, none) ∧ ∀ f ∈ new, f ∈ W :=
  run_fixpoint ev maxFacts P maxIter F W h

/-- The hypothesis `EvRespects` of the theorems above holds of the engine's evaluator. -/
theorem evalExpr_respects (cfg : EvalCfg) : EvRespects (evalBool cfg) :=
  evalBool_respects cfg

end Biscuit.C05
