/-
Props/C15Text — C15 at CHARACTER level: the text the library prints for a fact, a rule, a
check parses back to the same statement.

`Props/C15` relates the TOKEN-producing stack printer `Printer.printToks` to the reference
rendering.  Here the CHARACTER-level printer `Printer.print*` — the one compared with the Go
library's `Code()` output by the PRINT verb of the driver — is taken through the model's text
entry point `Grammar.parseSingleText` (lexer, then parser with the model's own fuel) and the
denotation `Grammar.denoteItems`:

    content ──print*──▶ characters ──lex──▶ tokens ──parseItem──▶ syntax tree ──denote──▶ content

The printed text is the reference rendering of the QUOTED statement (`Model/Quote`), spelled with
blank gaps accepted by `Grammar.LayoutOK`, no gap after the last token (`print*_layout`).  Hence it
lexes to that rendering (`lex_print*`, via `C14Layout.lex_of_layout`), parses to the quoted
statement (`parse_print*`, via `C14Items.parseSingle_render`, `C14.parse_render_partial`) and
denotes the statement, every set with its elements in printed order (`print_parse_denote_*`,
`Quote.norm*`; `…_sorted`: the statement itself when its sets are already in that order).

The syntax-tree side is general (`parse_layItem`): the printed STYLE (`PrintText.lay*`) of
every statement that is `C14Items.ItemWF`, `C14Text.itemLexOK` and `PrintText.itemDotOK` —
parameters and policies included — parses back to itself; `print* = lay* ∘ quote*` holds
unconditionally (`printPred_eq_lay`, …).

The printable domain (`PrintText.printable*`, decidable, content level; spelled out by
`printable*_iff`): int64 integers; strings that are valid UTF-8 without `"`; dates before the year
10000 (all of them: `PrintDates.printDate_roundtrip`); bytes, booleans; non-empty sets of printable
elements; variable names that are valid UTF-8 and `[a-zA-Z0-9_:]+`; predicate names that are valid
UTF-8 and `C14Lexer.identOK`; operator sequences that rebuild to a `C14.WF` tree without a date
literal as method receiver (`exprDotOK`); non-empty bodies and query lists.  For every restriction
the end of the file has content outside it whose printed text is rejected or read back as something
else; two restrictions are conservative (`name_check_conservative`, `date_receiver_conservative`).

Not covered: `Printer.printBlockCode` (the `Block { … }` wrapper is not Datalog text),
policies at content level (the printer has no policy printer; `parse_layItem` covers their
printed style), the library's `#index` print of strings inside sets (the model prints them
quoted; out of the domain of the correspondence check, see `Props/C15`).
-/
import BiscuitModel.Proofs.PrintText

namespace Biscuit.C15Text
open Biscuit Biscuit.Grammar Biscuit.Printer Biscuit.Render Biscuit.Quote Biscuit.C14Lexer
open Biscuit.C14Text Biscuit.PrintText

def PrintableAtom (a : Atom) : Prop := printableAtom a = true
def PrintableTerm (t : Term Val) : Prop := printableTerm t = true
def PrintablePred (p : Pred Val) : Prop := printablePred p = true
def PrintableExpr (e : Expr) : Prop := printableExpr e = true
def PrintableRule (r : DRule) : Prop := printableRule r = true
def PrintableCheck (c : Check) : Prop := printableCheck c = true

instance (a : Atom) : Decidable (PrintableAtom a) := inferInstanceAs (Decidable (_ = true))
instance (t : Term Val) : Decidable (PrintableTerm t) := inferInstanceAs (Decidable (_ = true))
instance (p : Pred Val) : Decidable (PrintablePred p) := inferInstanceAs (Decidable (_ = true))
instance (e : Expr) : Decidable (PrintableExpr e) := inferInstanceAs (Decidable (_ = true))
instance (r : DRule) : Decidable (PrintableRule r) := inferInstanceAs (Decidable (_ = true))
instance (c : Check) : Decidable (PrintableCheck c) := inferInstanceAs (Decidable (_ = true))

/-- What the domain says, literal by literal. -/
theorem printableAtom_iff (a : Atom) : PrintableAtom a ↔
    match a with
    | .int i => -(2 ^ 63) ≤ i ∧ i < 2 ^ 63
    | .str s => utf8OK s = true ∧ ∀ c ∈ charsOfBytes s, c ≠ '"'
    | .date d => d < 253402300800
    | .bytes _ => True
    | .bool _ => True := by
  cases a with
  | date d => exact decide_eq_true_iff
  | _ => simp [PrintableAtom, printableAtom]

theorem printableTerm_iff (t : Term Val) : PrintableTerm t ↔
    match t with
    | .var n => utf8OK n = true ∧ nameOK (charsOfBytes n) = true
    | .const (.atom a) => PrintableAtom a
    | .const (.set l) => l ≠ [] ∧ ∀ a ∈ l, PrintableAtom a := by
  match t with
  | .var n => simp [PrintableTerm, printableTerm]
  | .const (.atom a) => simp [PrintableTerm, printableTerm, PrintableAtom]
  | .const (.set l) => simp [PrintableTerm, printableTerm, PrintableAtom]

theorem printablePred_iff (p : Pred Val) : PrintablePred p ↔
    utf8OK p.name = true ∧ identOK (charsOfBytes p.name) = true ∧ ∀ t ∈ p.terms, PrintableTerm t := by
  simp [PrintablePred, printablePred, PrintableTerm, and_assoc]

theorem printableExpr_iff (e : Expr) : PrintableExpr e ↔
    (∀ t, Op.value t ∈ e → PrintableTerm t) ∧
      ∃ tree, quoteExpr e = some tree ∧ C14.WF tree ∧ exprDotOK tree = true := by
  have hv : e.all printableOp = true ↔ ∀ t, Op.value t ∈ e → PrintableTerm t := by
    rw [List.all_eq_true]
    exact ⟨fun h t ht => h _ ht, fun h o ho => by
      cases o with
      | value t => exact h t ho
      | unary _ => rfl
      | binary _ => rfl⟩
  rw [← hv]
  exact printableExpr_spec e

theorem printableRule_iff (r : DRule) : PrintableRule r ↔
    PrintablePred r.head ∧ (∀ p ∈ r.body, PrintablePred p) ∧ (∀ e ∈ r.exprs, PrintableExpr e) ∧
      (r.body ≠ [] ∨ r.exprs ≠ []) := by
  simp only [PrintableRule, printableRule, Bool.and_eq_true, printableBody_spec]
  rfl

theorem printableCheck_iff (c : Check) : PrintableCheck c ↔
    c.queries ≠ [] ∧ ∀ q ∈ c.queries, (∀ p ∈ q.body, PrintablePred p) ∧ (∀ e ∈ q.exprs, PrintableExpr e) ∧
      (q.body ≠ [] ∨ q.exprs ≠ []) := by
  simp only [PrintableCheck, printableCheck, Bool.and_eq_true, Bool.not_eq_true', List.isEmpty_eq_false_iff,
    List.all_eq_true, printableBody_spec]
  rfl

/-- Every byte string that comes from a `String` is valid UTF-8, and decodes to its characters. -/
theorem utf8OK_strBytes (s : String) : utf8OK (strBytes s) = true ∧ charsOfBytes (strBytes s) = s.toList :=
  ⟨by simp [utf8OK, charsOfBytes_strBytes], charsOfBytes_strBytes s⟩

/-! The printer writes the printed style of the quoted tree (no hypothesis). -/

theorem printTerm_eq_lay (t : Term Val) : printTerm t = layTerm (quoteTerm t) := printTerm_eq t

theorem printPred_eq_lay (p : Pred Val) : printPred p = layPred (quotePred p) := printPred_eq p

/-- The string stack machine and the tree stack machine run in lock step: `<invalid expression>`
exactly when no tree is rebuilt. -/
theorem printExpr_eq_lay (e : Expr) :
    printExpr e = match quoteExpr e with
      | some t => layExpr t
      | none => "<invalid expression>".toList := by
  rw [printExpr_quote]
  cases quoteExpr e <;> rfl

theorem printRule_eq_lay (r : DRule) (pr : PRule) (h : quoteRule r = some pr) : printRule r = layRule pr :=
  printRule_eq r pr h

theorem printCheck_eq_lay (c : Check) (pc : PCheck) (h : quoteCheck c = some pc) :
    printCheck c = layCheck pc := printCheck_eq c pc h

/-- `cs` spells the tokens `ts` with gaps accepted by `Grammar.LayoutOK`, none after the last token. -/
def IsLayoutOf (cs : List Char) (ts : List Tok) : Prop :=
  ∃ gaps : List (List Char), gaps.length + 1 = ts.length ∧ cs = spellWith gaps ts ∧ LayoutOK gaps ts

theorem layItem_layout (it : PItem) (hw : C14Items.ItemWF it) (hl : itemLexOK it = true)
    (hd : itemDotOK it = true) : IsLayoutOf (layItem it) (renderItem it) :=
  (seg_layItem it hw hl hd).layout

theorem lex_layItem (it : PItem) (hw : C14Items.ItemWF it) (hl : itemLexOK it = true)
    (hd : itemDotOK it = true) : lex (layItem it) = some (renderItem it) :=
  (seg_layItem it hw hl hd).lex

/-- **The printed style parses back**, for facts, rules, checks and policies, with parameters,
any nesting and length. -/
theorem parse_layItem (it : PItem) (hw : C14Items.ItemWF it) (hl : itemLexOK it = true)
    (hd : itemDotOK it = true) : parseSingleText (layItem it) = some it :=
  parseSingleText_of_seg it hw (seg_layItem it hw hl hd)

/-! The printed text of printable content is a segment (`PrintText.Seg`) of the rendering of the quoted
tree; the statements about the layout, the lexer and the parser below are read off it. -/

theorem printPred_seg (p : Pred Val) (h : PrintablePred p) :
    C14Items.ItemWF (quoteFact p) ∧ Seg (printPred p) (renderItem (quoteFact p)) := by
  obtain ⟨hw, hl, hd⟩ := quoteFact_ok p h
  exact ⟨hw, printPred_eq p ▸ seg_layItem (quoteFact p) hw hl hd⟩

theorem printExpr_seg (e : Expr) (h : PrintableExpr e) :
    ∃ t, quoteExpr e = some t ∧ C14.WF t ∧ Seg (printExpr e) (renderToks t) := by
  obtain ⟨t, hq, hw, hl, hd⟩ := quoteExpr_ok e h
  exact ⟨t, hq, hw, printExpr_eq e t hq ▸ seg_layExpr t hw hl hd⟩

theorem printRule_seg (r : DRule) (h : PrintableRule r) :
    ∃ pr, quoteRule r = some pr ∧ C14Items.ItemWF (.rule pr) ∧ Seg (printRule r) (renderItem (.rule pr)) := by
  obtain ⟨pr, hq, hw, hl, hd⟩ := quoteRule_ok r h
  exact ⟨pr, hq, hw, printRule_eq r pr hq ▸ seg_layItem (.rule pr) hw hl hd⟩

theorem printCheck_seg (c : Check) (h : PrintableCheck c) :
    ∃ pc, quoteCheck c = some pc ∧ C14Items.ItemWF (.check pc) ∧ Seg (printCheck c) (renderItem (.check pc)) := by
  obtain ⟨pc, hq, hw, hl, hd⟩ := quoteCheck_ok c h
  exact ⟨pc, hq, hw, printCheck_eq c pc hq ▸ seg_layItem (.check pc) hw hl hd⟩

theorem printPred_layout (p : Pred Val) (h : PrintablePred p) :
    IsLayoutOf (printPred p) (renderPred (quotePred p)) :=
  (printPred_seg p h).2.layout

theorem printExpr_layout (e : Expr) (h : PrintableExpr e) :
    ∃ t, quoteExpr e = some t ∧ IsLayoutOf (printExpr e) (renderToks t) :=
  let ⟨t, hq, _, s⟩ := printExpr_seg e h; ⟨t, hq, s.layout⟩

theorem printRule_layout (r : DRule) (h : PrintableRule r) :
    ∃ pr, quoteRule r = some pr ∧ IsLayoutOf (printRule r) (renderRule pr) :=
  let ⟨pr, hq, _, s⟩ := printRule_seg r h; ⟨pr, hq, s.layout⟩

theorem printCheck_layout (c : Check) (h : PrintableCheck c) :
    ∃ pc, quoteCheck c = some pc ∧ IsLayoutOf (printCheck c) (renderCheck pc) :=
  let ⟨pc, hq, _, s⟩ := printCheck_seg c h; ⟨pc, hq, s.layout⟩

theorem lex_printPred (p : Pred Val) (h : PrintablePred p) :
    lex (printPred p) = some (renderPred (quotePred p)) :=
  (printPred_seg p h).2.lex

theorem lex_printExpr (e : Expr) (h : PrintableExpr e) :
    ∃ t, quoteExpr e = some t ∧ lex (printExpr e) = some (renderToks t) :=
  let ⟨t, hq, _, s⟩ := printExpr_seg e h; ⟨t, hq, s.lex⟩

theorem lex_printRule (r : DRule) (h : PrintableRule r) :
    ∃ pr, quoteRule r = some pr ∧ lex (printRule r) = some (renderRule pr) :=
  let ⟨pr, hq, _, s⟩ := printRule_seg r h; ⟨pr, hq, s.lex⟩

theorem lex_printCheck (c : Check) (h : PrintableCheck c) :
    ∃ pc, quoteCheck c = some pc ∧ lex (printCheck c) = some (renderCheck pc) :=
  let ⟨pc, hq, _, s⟩ := printCheck_seg c h; ⟨pc, hq, s.lex⟩

/-- **Facts** (`FromStringFact` on the printed text). -/
theorem parse_printFact (p : Pred Val) (h : PrintablePred p) :
    parseSingleText (printPred p) = some (.fact (quotePred p)) :=
  parseSingleText_of_seg (quoteFact p) (printPred_seg p h).1 (printPred_seg p h).2

theorem parse_printRule (r : DRule) (h : PrintableRule r) :
    ∃ pr, quoteRule r = some pr ∧ parseSingleText (printRule r) = some (.rule pr) :=
  let ⟨pr, hq, hw, s⟩ := printRule_seg r h; ⟨pr, hq, parseSingleText_of_seg _ hw s⟩

theorem parse_printCheck (c : Check) (h : PrintableCheck c) :
    ∃ pc, quoteCheck c = some pc ∧ parseSingleText (printCheck c) = some (.check pc) :=
  let ⟨pc, hq, hw, s⟩ := printCheck_seg c h; ⟨pc, hq, parseSingleText_of_seg _ hw s⟩

/-- **Expressions** (no text entry point of their own: lexer, then `parseOr` with the model's
fuel): the printed expression parses back to the tree rebuilt from the operator sequence, and
the parser consumes the whole text. -/
theorem parse_printExpr (e : Expr) (h : PrintableExpr e) :
    ∃ t, quoteExpr e = some t ∧
      (lex (printExpr e)).bind (fun toks => parseOr (fuelFor toks) toks) = some (t, []) := by
  obtain ⟨t, hq, hw, s⟩ := printExpr_seg e h
  refine ⟨t, hq, ?_⟩
  rw [s.lex, Option.bind_some]
  have := C14.parse_render_partial t hw [] trivial (fuelFor (renderToks t)) (by simp only [fuelFor]; omega)
  simpa using this

def denoteItem (it : PItem) : Option ParsedContent := denoteItems [] [it]

theorem denote_quoteTerm (t : Term Val) (h : PrintableTerm t) : denoteTerm [] (quoteTerm t) = some (normTerm t) :=
  (quoteTerm_ok t h).2.2

theorem denote_quotePred (p : Pred Val) (h : PrintablePred p) :
    denotePred [] (quotePred p) = some (normPred p) := (quotePred_ok p h).2.2

/-- The tree rebuilt from an operator sequence emits that sequence (`toPostfix ∘ quoteExpr`),
and denotes it. -/
theorem denote_quoteExpr (e : Expr) (h : PrintableExpr e) :
    ∃ t, quoteExpr e = some t ∧ toPostfix t = e.map quoteOp ∧ denoteExpr [] t = some (normExpr e) := by
  obtain ⟨hv, t, hq, _⟩ := (printableExpr_spec e).1 h
  exact ⟨t, hq, toPostfix_quoteExpr e t hq, denoteExpr_quote e t hq hv⟩

/-- **C15, character level, facts**: printed text ↦ the same fact (sets in printed order). -/
theorem print_parse_denote_fact (p : Pred Val) (h : PrintablePred p) :
    (parseSingleText (printPred p)).bind denoteItem =
      some { facts := [normPred p], rules := [], checks := [], policies := [] } := by
  rw [parse_printFact p h, Option.bind_some]
  exact denoteItems_fact p h

/-- **C15, character level, rules**: printed text ↦ the same rule (sets in printed order). -/
theorem print_parse_denote_rule (r : DRule) (h : PrintableRule r) :
    (parseSingleText (printRule r)).bind denoteItem =
      some { facts := [], rules := [normRule r], checks := [], policies := [] } := by
  obtain ⟨pr, hq, hp⟩ := parse_printRule r h
  rw [hp, Option.bind_some]
  exact denoteItems_rule r pr hq h

/-- **C15, character level, checks** (the head of a query is not printed; the parser gives every
query the fixed head `query()`). -/
theorem print_parse_denote_check (c : Check) (h : PrintableCheck c) :
    (parseSingleText (printCheck c)).bind denoteItem =
      some { facts := [], rules := [], checks := [normCheck c], policies := [] } := by
  obtain ⟨pc, hq, hp⟩ := parse_printCheck c h
  rw [hp, Option.bind_some]
  exact denoteItems_check c pc hq h

/-- Sets already in printed order: exactly the same fact. -/
theorem print_parse_denote_fact_sorted (p : Pred Val) (h : PrintablePred p) (hs : normPred p = p) :
    (parseSingleText (printPred p)).bind denoteItem =
      some { facts := [p], rules := [], checks := [], policies := [] } := by
  rw [print_parse_denote_fact p h, hs]

theorem print_parse_denote_rule_sorted (r : DRule) (h : PrintableRule r) (hs : normRule r = r) :
    (parseSingleText (printRule r)).bind denoteItem =
      some { facts := [], rules := [r], checks := [], policies := [] } := by
  rw [print_parse_denote_rule r h, hs]

theorem print_parse_denote_check_sorted (c : Check) (h : PrintableCheck c) (hs : normCheck c = c) :
    (parseSingleText (printCheck c)).bind denoteItem =
      some { facts := [], rules := [], checks := [c], policies := [] } := by
  rw [print_parse_denote_check c h, hs]

/-- `norm*` only reorders sets: a term without a set is untouched, and the reordered set has
the same elements. -/
theorem normTerm_of_not_set (t : Term Val) (h : ∀ l, t ≠ .const (.set l)) : normTerm t = t := by
  match t with
  | .var n => rfl
  | .const (.atom a) => rfl
  | .const (.set l) => exact absurd rfl (h l)

theorem mem_sortA (x : Atom) (l : List Atom) : x ∈ sortA l ↔ x ∈ l := PrintText.mem_sortA x l

/-! Non-vacuity: concrete content through the theorems.  Where a concrete text is lexed, the
evaluation runs `lexC` (`Proofs/LexRules`, the lexer over character lists, `parseSingleText_eqC` /
`lex_eq`): the kernel then does not decode the string literals inside `lexOne` at every token. -/

def sB (s : String) : Bytes := strBytes s
def tVar (s : String) : Term Val := .var (sB s)
def tStr (s : String) : Term Val := .const (.atom (.str (sB s)))
def tInt (i : Int) : Term Val := .const (.atom (.int i))

/-- A fact with a string, an integer, a date, bytes, a boolean and a set. -/
def exFact : Pred Val :=
  { name := sB "roles"
    terms := [tStr "alice", tInt 42, .const (.atom (.date 1577836800)), .const (.atom (.bytes [0x00, 0xff])),
      .const (.atom (.bool true)), .const (.set [.int 1, .int 2])] }

/-- A rule with two body predicates and the expression `$x.starts_with("a") || 1 + 2 == 3`. -/
def exRule : DRule :=
  { head := { name := sB "right", terms := [tVar "x", tStr "read"] }
    body := [{ name := sB "user", terms := [tVar "x"] }, { name := sB "owner", terms := [tVar "x", tStr "file1"] }]
    exprs := [[.value (tVar "x"), .value (tStr "a"), .binary .pfx, .value (tInt 1), .value (tInt 2), .binary .add,
      .value (tInt 3), .binary .eq, .binary .or]] }

/-- A check with two alternative queries. -/
def exCheck : Check :=
  { queries := [
      { head := queryHead, body := [{ name := sB "resource", terms := [tVar "r"] },
          { name := sB "operation", terms := [tStr "read"] }], exprs := [] },
      { head := queryHead, body := [{ name := sB "admin", terms := [.const (.atom (.bool true))] }],
        exprs := [[.value (tVar "x"), .value (.const (.set [.int 1, .int 2])), .binary .contains, .unary .negate]] }] }

theorem exFact_printable : PrintablePred exFact := by decide +kernel
theorem exRule_printable : PrintableRule exRule := by decide +kernel
theorem exCheck_printable : PrintableCheck exCheck := by decide +kernel

theorem exFact_text : String.ofList (printPred exFact) =
    "roles(\"alice\", 42, 2020-01-01T00:00:00Z, hex:00ff, true, [1, 2])" := ofList_lit (by decide +kernel)
theorem exRule_text : String.ofList (printRule exRule) =
    "right($x, \"read\") <- user($x), owner($x, \"file1\"), $x.starts_with(\"a\") || 1 + 2 == 3" :=
  ofList_lit (by decide +kernel)
theorem exCheck_text : String.ofList (printCheck exCheck) =
    "check if resource($r), operation(\"read\") or admin(true), !$x.contains([1, 2])" :=
  ofList_lit (by decide +kernel)

/-- The quoted rule: the tree `(… .starts_with(…)) || ((1 + 2) == 3)` rebuilt from the postfix sequence. -/
theorem exRule_quote : (quoteRule exRule).map renderRule = some
    [.ident "right", .punct '(', .var "x", .punct ',', .str "read".toList, .punct ')', .arrow,
     .ident "user", .punct '(', .var "x", .punct ')', .punct ',',
     .ident "owner", .punct '(', .var "x", .punct ',', .str "file1".toList, .punct ')', .punct ',',
     .var "x", .dot, .ident "starts_with", .punct '(', .str ['a'], .punct ')', .orOp,
     .int ['1'], .op "+", .int ['2'], .op "==", .int ['3']] := by decide +kernel

/-- **From the characters, through the theorems**: lexer, parser, denotation. -/
theorem exFact_roundtrip :
    (parseSingleText "roles(\"alice\", 42, 2020-01-01T00:00:00Z, hex:00ff, true, [1, 2])".toList).bind denoteItem =
      some { facts := [exFact], rules := [], checks := [], policies := [] } := by
  rw [← exFact_text, String.toList_ofList]
  exact print_parse_denote_fact_sorted exFact exFact_printable (by decide +kernel)

theorem exRule_roundtrip :
    (parseSingleText
      "right($x, \"read\") <- user($x), owner($x, \"file1\"), $x.starts_with(\"a\") || 1 + 2 == 3".toList).bind
        denoteItem =
      some { facts := [], rules := [exRule], checks := [], policies := [] } := by
  rw [← exRule_text, String.toList_ofList]
  exact print_parse_denote_rule_sorted exRule exRule_printable (by decide +kernel)

theorem exCheck_roundtrip :
    (parseSingleText
      "check if resource($r), operation(\"read\") or admin(true), !$x.contains([1, 2])".toList).bind denoteItem =
      some { facts := [], rules := [], checks := [exCheck], policies := [] } := by
  rw [← exCheck_text, String.toList_ofList]
  exact print_parse_denote_check_sorted exCheck exCheck_printable (by decide +kernel)

example : ∃ pr, quoteRule exRule = some pr ∧ lex (printRule exRule) = some (renderRule pr) :=
  lex_printRule exRule exRule_printable

/-- Evaluation agrees with the theorems (by computation in the kernel, independently of them). -/
example : (parseSingleText (printPred exFact)).bind denoteItem =
    some { facts := [exFact], rules := [], checks := [], policies := [] } := by
  simp only [parseSingleText_eqC]; decide +kernel

example : (parseSingleText (printRule exRule)).bind denoteItem =
    some { facts := [], rules := [exRule], checks := [], policies := [] } := by
  simp only [parseSingleText_eqC]; decide +kernel

example : (parseSingleText (printCheck exCheck)).bind denoteItem =
    some { facts := [], rules := [], checks := [exCheck], policies := [] } := by
  simp only [parseSingleText_eqC]; decide +kernel

/-! Every restriction of the printable domain, with content outside it whose printed text is
rejected or — worse — read back as something else. -/

def f1 (t : Term Val) : Pred Val := { name := sB "f", terms := [t] }

def factsOnly (fs : List (Pred Val)) : ParsedContent := { facts := fs, rules := [], checks := [], policies := [] }
def checksOnly (cs : List Check) : ParsedContent := { facts := [], rules := [], checks := cs, policies := [] }

/-- What the printed text of a fact denotes. -/
def reread (p : Pred Val) : Option ParsedContent := (parseSingleText (printPred p)).bind denoteItem

/-- Negative integers are INSIDE the domain: `f(-5)` is lexed as `f ( - 5 )`, the sign and the
digits are one literal, and the fact comes back — down to `-2^63`, also inside a set (where the
printed order is the order of the texts: `-1` before `-2` before `3`). -/
theorem neg_int_roundtrips :
    PrintablePred (f1 (tInt (-5))) ∧ String.ofList (printPred (f1 (tInt (-5)))) = "f(-5)" ∧
    lex (printPred (f1 (tInt (-5)))) = some [.ident "f", .punct '(', .op "-", .int ['5'], .punct ')'] ∧
    (parseSingleText (printPred (f1 (tInt (-5))))).map renderItem =
      some [.ident "f", .punct '(', .op "-", .int ['5'], .punct ')'] ∧
    reread (f1 (tInt (-5))) = some (factsOnly [f1 (tInt (-5))]) ∧
    PrintablePred (f1 (tInt (-(2 ^ 63)))) ∧
    String.ofList (printPred (f1 (tInt (-(2 ^ 63))))) = "f(-9223372036854775808)" ∧
    reread (f1 (tInt (-(2 ^ 63)))) = some (factsOnly [f1 (tInt (-(2 ^ 63)))]) ∧
    String.ofList (printPred (f1 (.const (.set [.int 3, .int (-2), .int (-1)])))) = "f([-1, -2, 3])" ∧
    reread (f1 (.const (.set [.int 3, .int (-2), .int (-1)]))) =
      some (factsOnly [f1 (.const (.set [.int (-1), .int (-2), .int 3]))]) := by
  simp only [reread, parseSingleText_eqC, lex_eq]; decide +kernel

/-- The same through the general theorem. -/
theorem neg_int_roundtrip :
    (parseSingleText "f(-5)".toList).bind denoteItem = some (factsOnly [f1 (tInt (-5))]) := by
  have ht : String.ofList (printPred (f1 (tInt (-5)))) = "f(-5)" := ofList_lit (by decide +kernel)
  rw [← ht, String.toList_ofList]
  exact print_parse_denote_fact_sorted (f1 (tInt (-5))) (by decide +kernel) (by decide +kernel)

/-- Integers from `2^63` on and below `-2^63`: the text parses, the conversion rejects the literal. -/
theorem big_int_fails :
    ¬ PrintablePred (f1 (tInt (2 ^ 63))) ∧ (parseSingleText (printPred (f1 (tInt (2 ^ 63))))).isSome = true ∧
    reread (f1 (tInt (2 ^ 63))) = none ∧
    PrintablePred (f1 (tInt (2 ^ 63 - 1))) ∧
    ¬ PrintablePred (f1 (tInt (-(2 ^ 63) - 1))) ∧
    (parseSingleText (printPred (f1 (tInt (-(2 ^ 63) - 1))))).isSome = true ∧
    reread (f1 (tInt (-(2 ^ 63) - 1))) = none := by
  simp only [reread, parseSingleText_eqC]; decide +kernel

/-- A `"` inside a string ends the literal early (the printer does not escape). -/
theorem quote_in_string_fails :
    ¬ PrintablePred (f1 (tStr "a\"b")) ∧ String.ofList (printPred (f1 (tStr "a\"b"))) = "f(\"a\"b\")" ∧
    reread (f1 (tStr "a\"b")) = none ∧
    reread (f1 (tStr "a\", \"b")) = some (factsOnly [{ name := sB "f", terms := [tStr "a", tStr "b"] }]) := by
  simp only [reread, parseSingleText_eqC]; decide +kernel

/-- Bytes that are not UTF-8 print as the empty text (`String.fromUTF8!`) and come back as the
empty string. -/
theorem invalid_utf8_fails :
    ¬ PrintablePred (f1 (.const (.atom (.str [0xff])))) ∧
    String.ofList (printPred (f1 (.const (.atom (.str [0xff]))))) = "f(\"\")" ∧
    reread (f1 (.const (.atom (.str [0xff])))) = some (factsOnly [f1 (.const (.atom (.str [])))]) := by
  simp only [reread, parseSingleText_eqC]; decide +kernel

/-- Dates from the year 10000 on: five digits, no Date token. -/
theorem late_date_fails :
    ¬ PrintablePred (f1 (.const (.atom (.date 253402300800)))) ∧
    String.ofList (printPred (f1 (.const (.atom (.date 253402300800))))) = "f(10000-01-01T00:00:00Z)" ∧
    reread (f1 (.const (.atom (.date 253402300800)))) = none ∧
    PrintablePred (f1 (.const (.atom (.date 253402300799)))) ∧
    String.ofList (printPred (f1 (.const (.atom (.date 253402300799))))) = "f(9999-12-31T23:59:59Z)" := by
  simp only [reread, parseSingleText_eqC]; decide +kernel

/-- The empty set is not a term of the grammar. -/
theorem empty_set_fails :
    ¬ PrintablePred (f1 (.const (.set []))) ∧ String.ofList (printPred (f1 (.const (.set [])))) = "f([])" ∧
    reread (f1 (.const (.set []))) = none := by
  simp only [reread, parseSingleText_eqC]; decide +kernel

/-- A set whose list is not in printed order comes back in printed order: the same set, another
list.  (Printable; this is why the general theorems speak of `norm*`.) -/
theorem unsorted_set_reordered :
    PrintablePred (f1 (.const (.set [.int 2, .int 10, .int 1]))) ∧
    String.ofList (printPred (f1 (.const (.set [.int 2, .int 10, .int 1])))) = "f([1, 10, 2])" ∧
    reread (f1 (.const (.set [.int 2, .int 10, .int 1]))) =
      some (factsOnly [f1 (.const (.set [.int 1, .int 10, .int 2]))]) := by
  simp only [reread, parseSingleText_eqC]; decide +kernel

/-- Variable names: other characters end the name early; an empty name is no variable. -/
theorem bad_variable_fails :
    ¬ PrintablePred (f1 (tVar "a-b")) ∧ reread (f1 (tVar "a-b")) = none ∧
    ¬ PrintablePred (f1 (tVar "")) ∧ reread (f1 (tVar "")) = none ∧
    reread (f1 (tVar "a, $b")) = some (factsOnly [{ name := sB "f", terms := [tVar "a", tVar "b"] }]) := by
  simp only [reread, parseSingleText_eqC]; decide +kernel

/-- Predicate names: upper case first, a Bool / Function literal, a `hex:` prefix, the empty name. -/
theorem bad_name_fails :
    (∀ n ∈ ["Abc", "true", "length", "hex:ab", "", "a b"],
      ¬ PrintablePred { name := sB n, terms := [tInt 1] } ∧
      reread { name := sB n, terms := [tInt 1] } = none) := by
  simp only [reread, parseSingleText_eqC]; decide +kernel

/-- CONSERVATIVE (inherited from `C14Lexer.identOK`): the names `check`, `allow`, `deny` are outside
the domain although, followed by `(`, they read back. -/
theorem name_check_conservative :
    ¬ PrintablePred { name := sB "check", terms := [tInt 1] } ∧
    reread { name := sB "check", terms := [tInt 1] } =
      some (factsOnly [{ name := sB "check", terms := [tInt 1] }]) := by
  simp only [reread, parseSingleText_eqC]; decide +kernel

def chk (e : Expr) : Check := { queries := [{ head := queryHead, body := [], exprs := [e] }] }

def rereadCheck (c : Check) : Option ParsedContent := (parseSingleText (printCheck c)).bind denoteItem

/-- An operator sequence that is no postfix expression prints as `<invalid expression>`. -/
theorem invalid_expr_fails :
    ¬ PrintableExpr [.binary .add] ∧ quoteExpr [.binary .add] = none ∧
    String.ofList (printCheck (chk [.binary .add])) = "check if <invalid expression>" ∧
    rereadCheck (chk [.binary .add]) = none := by
  simp only [rereadCheck, parseSingleText_eqC]; decide +kernel

/-- The printer adds no parentheses: `1 2 + 3 *` prints as `1 + 2 * 3`, which is `1 2 3 * +`. -/
theorem precedence_fails :
    ¬ PrintableExpr [.value (tInt 1), .value (tInt 2), .binary .add, .value (tInt 3), .binary .mul] ∧
    String.ofList (printExpr [.value (tInt 1), .value (tInt 2), .binary .add, .value (tInt 3), .binary .mul]) =
      "1 + 2 * 3" ∧
    rereadCheck (chk [.value (tInt 1), .value (tInt 2), .binary .add, .value (tInt 3), .binary .mul]) =
      some (checksOnly [chk [.value (tInt 1), .value (tInt 2), .value (tInt 3), .binary .mul, .binary .add]]) ∧
    PrintableExpr [.value (tInt 1), .value (tInt 2), .binary .add, .unary .parens, .value (tInt 3), .binary .mul] ∧
    String.ofList (printExpr
      [.value (tInt 1), .value (tInt 2), .binary .add, .unary .parens, .value (tInt 3), .binary .mul]) =
      "(1 + 2) * 3" := by
  simp only [rereadCheck, parseSingleText_eqC]; decide +kernel

/-- Negative literals inside expressions: the printer writes a binary minus with blanks and the
sign without (`1 - -5 == 6`, `$x > -5`, `!-5`, `(-5).length()`); the texts read back to the same
operator sequences. -/
theorem neg_int_in_expr_roundtrips :
    PrintableExpr [.value (tInt 1), .value (tInt (-5)), .binary .sub, .value (tInt 6), .binary .eq] ∧
    String.ofList (printExpr [.value (tInt 1), .value (tInt (-5)), .binary .sub, .value (tInt 6), .binary .eq]) =
      "1 - -5 == 6" ∧
    rereadCheck (chk [.value (tInt 1), .value (tInt (-5)), .binary .sub, .value (tInt 6), .binary .eq]) =
      some (checksOnly [chk [.value (tInt 1), .value (tInt (-5)), .binary .sub, .value (tInt 6), .binary .eq]]) ∧
    PrintableExpr [.value (tVar "x"), .value (tInt (-5)), .binary .gt] ∧
    String.ofList (printExpr [.value (tVar "x"), .value (tInt (-5)), .binary .gt]) = "$x > -5" ∧
    rereadCheck (chk [.value (tVar "x"), .value (tInt (-5)), .binary .gt]) =
      some (checksOnly [chk [.value (tVar "x"), .value (tInt (-5)), .binary .gt]]) ∧
    PrintableExpr [.value (tInt (-5)), .unary .negate] ∧
    String.ofList (printExpr [.value (tInt (-5)), .unary .negate]) = "!-5" ∧
    PrintableExpr [.value (tInt (-5)), .unary .parens, .unary .length] ∧
    String.ofList (printExpr [.value (tInt (-5)), .unary .parens, .unary .length]) = "(-5).length()" ∧
    rereadCheck (chk [.value (tInt (-5)), .unary .parens, .unary .length]) =
      some (checksOnly [chk [.value (tInt (-5)), .unary .parens, .unary .length]]) := by
  simp only [rereadCheck, parseSingleText_eqC]; decide +kernel

/-- CONSERVATIVE (inherited from `Grammar.needSep`: `dateCont` lists `.` among the characters that could
continue a date): a date literal as receiver is outside the domain although the text reads back
(printed dates end in `Z`).  Every other kind of receiver is inside. -/
theorem date_receiver_conservative :
    ¬ PrintableExpr [.value (.const (.atom (.date 0))), .unary .length] ∧
    rereadCheck (chk [.value (.const (.atom (.date 0))), .unary .length]) =
      some (checksOnly [chk [.value (.const (.atom (.date 0))), .unary .length]]) ∧
    (∀ t ∈ [tVar "x", tStr "a", tInt 7, .const (.atom (.bytes [1])), .const (.atom (.bool true)),
        .const (.set [.int 1])], PrintableExpr [.value t, .unary .length]) ∧
    PrintableExpr [.value (.const (.atom (.date 0))), .unary .parens, .unary .length] := by
  simp only [rereadCheck, parseSingleText_eqC]; decide +kernel

/-- A rule without body, a check without query, a query without element. -/
theorem empty_body_fails :
    ¬ PrintableRule { head := f1 (tInt 1), body := [], exprs := [] } ∧
    String.ofList (printRule { head := f1 (tInt 1), body := [], exprs := [] }) = "f(1) <- " ∧
    parseSingleText (printRule { head := f1 (tInt 1), body := [], exprs := [] }) = none := by
  simp only [parseSingleText_eqC]; decide +kernel

theorem empty_check_fails :
    ¬ PrintableCheck { queries := [] } ∧ parseSingleText (printCheck { queries := [] }) = none ∧
    ¬ PrintableCheck { queries := [{ head := queryHead, body := [], exprs := [] }] } ∧
    parseSingleText (printCheck { queries := [{ head := queryHead, body := [], exprs := [] }] }) = none := by
  simp only [parseSingleText_eqC]; decide +kernel

/-- The head of a query is not printed: a check whose query has another head comes back with
`query()` (printable; `normCheck` says so). -/
theorem query_head_not_printed :
    PrintableCheck { queries := [{ head := f1 (tInt 1), body := [f1 (tInt 2)], exprs := [] }] } ∧
    rereadCheck { queries := [{ head := f1 (tInt 1), body := [f1 (tInt 2)], exprs := [] }] } =
      some (checksOnly [{ queries := [{ head := queryHead, body := [f1 (tInt 2)], exprs := [] }] }]) := by
  simp only [rereadCheck, parseSingleText_eqC]; decide +kernel

end Biscuit.C15Text
