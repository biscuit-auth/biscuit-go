/-
Props/Tables — ties between the model and tables REGENERATED from the library's current
working tree by `harness extract` (Generated/Tables.lean, rewritten on every check run).

Every theorem is a closed finite statement, so evaluation is the proof. Two literal tables are
compared by `rfl`, structurally; numbers and lists of numbers by `decide`; `decide +kernel`, which
runs the decision procedure for equality of strings, is used where a side is computed by matching
on strings, which the kernel evaluates faster than `rfl` unfolds it.
A change of the source that alters a table breaks an obligation here at `lake build`.
The right-hand sides are the model's own definitions (Model/Symbols, Model/Expr, Props/C06)
or, for the published protobuf schema and the printed operator spellings, literal tables
written from pb/biscuit.proto's published form and parser/GRAMMAR.md.
-/
import BiscuitModel.Generated.Tables
import BiscuitModel.Props.C06
import BiscuitModel.Model.Symbols

namespace Biscuit.Tables
open Biscuit

/-! ### Symbols (C02, C07, C18) -/

theorem defaultSymbols_tied : Generated.defaultSymbols = defaultSymbolNames := rfl
theorem offset_tied : Generated.offset = symOffset := by decide
theorem defaultSymbols_intern_to_their_index : Generated.defaultSymbolInsertIndexes = List.range 28 := by decide
theorem fresh_symbols_are_consecutive : Generated.secondFreshIndex = symOffset + 1 := by decide

/-! ### Operator codes on the wire (C07), both directions -/

def allBinOps : List BinOp :=
  [.lt, .le, .gt, .ge, .eq, .contains, .pfx, .sfx, .regex, .add, .sub, .mul, .div, .and, .or, .intersection, .union]
def allUnOps : List UnOp := [.negate, .parens, .length]

def binName : BinOp → String
  | .lt => "lt" | .le => "le" | .gt => "gt" | .ge => "ge" | .eq => "eq" | .contains => "contains"
  | .pfx => "prefix" | .sfx => "suffix" | .regex => "regex" | .add => "add" | .sub => "sub"
  | .mul => "mul" | .div => "div" | .and => "and" | .or => "or" | .intersection => "intersection"
  | .union => "union"
def unName : UnOp → String
  | .negate => "neg" | .parens => "par" | .length => "len"

/-- What the library writes for each operator is the published enum value. -/
theorem binaryWire_tied : Generated.binaryWire = allBinOps.map (fun b => (binName b, binaryCode b)) := rfl
theorem unaryWire_tied : Generated.unaryWire = allUnOps.map (fun u => (unName u, unaryCode u)) := rfl

/-- What the library reads for each raw enum value 0..20 is the published operator, and
values outside the enum are rejected. -/
theorem binaryFromWire_tied :
    Generated.binaryFromWire = (List.range 21).map (fun k => (k, match binaryOfCode k with | some b => binName b | none => "reject")) := rfl
theorem unaryFromWire_tied :
    Generated.unaryFromWire = (List.range 6).map (fun k => (k, match unaryOfCode k with | some u => unName u | none => "reject")) := rfl

/-! ### Printed operator spellings (C15): the documented surface syntax -/

def documentedBinary : List (String × String) := [("lt", "L < R"), ("le", "L <= R"), ("gt", "L > R"), ("ge", "L >= R"), ("eq", "L == R"), ("contains", "L.contains(R)"), ("prefix", "L.starts_with(R)"), ("suffix", "L.ends_with(R)"), ("regex", "L.matches(R)"), ("add", "L + R"), ("sub", "L - R"), ("mul", "L * R"), ("div", "L / R"), ("and", "L && R"), ("or", "L || R"), ("intersection", "L.intersection(R)"), ("union", "L.union(R)")]
def documentedUnary : List (String × String) := [("neg", "!V"), ("par", "(V)"), ("len", "V.length()")]

theorem printedBinary_tied : Generated.printedBinary = documentedBinary := rfl
theorem printedUnary_tied : Generated.printedUnary = documentedUnary := rfl

/-! ### Operator typing (C06): the running library accepts exactly the model's table -/

def typeOfName : String → VType
  | "integer" => .integer | "string" => .string | "date" => .date | "bytes" => .bytes | "bool" => .bool | _ => .set
def typeNames : List String := ["integer", "string", "date", "bytes", "bool", "set"]

theorem acceptedBinary_tied :
    Generated.acceptedBinary =
      allBinOps.flatMap (fun b => typeNames.flatMap (fun l => typeNames.map (fun r =>
        (binName b, l, r, C06.accepts b (typeOfName l) (typeOfName r))))) := by
  decide +kernel

theorem acceptedUnary_tied :
    Generated.acceptedUnary =
      allUnOps.flatMap (fun u => typeNames.map (fun t => (unName u, t, C06.acceptsUnary u (typeOfName t)))) := by
  decide +kernel

/-! ### Bounds (C06, C11) -/

theorem maxStackSize_tied : Generated.maxStackSize = maxStackSize := by decide
theorem schemaVersions_tied : Generated.minSchemaVersion = minSchemaVersion ∧ Generated.maxSchemaVersion = maxSchemaVersion := by decide
theorem defaultLimits_tied : Generated.defaultMaxFacts = 1000 ∧ Generated.defaultMaxIterations = 100 := by decide

/-! ### The published protobuf schema (C07, C10, C18): message, field, number, label, type -/

def publishedFields : List (String × String × Nat × String × String) := [("AuthorizerPolicies", "checks", 5, "repeated", "CheckV2"), ("AuthorizerPolicies", "facts", 3, "repeated", "FactV2"), ("AuthorizerPolicies", "policies", 6, "repeated", "Policy"), ("AuthorizerPolicies", "rules", 4, "repeated", "RuleV2"), ("AuthorizerPolicies", "symbols", 1, "repeated", "string"), ("AuthorizerPolicies", "version", 2, "optional", "uint32"), ("Biscuit", "authority", 2, "required", "SignedBlock"), ("Biscuit", "blocks", 3, "repeated", "SignedBlock"), ("Biscuit", "proof", 4, "required", "Proof"), ("Biscuit", "rootKeyId", 1, "optional", "uint32"), ("Block", "checks_v2", 6, "repeated", "CheckV2"), ("Block", "context", 2, "optional", "string"), ("Block", "facts_v2", 4, "repeated", "FactV2"), ("Block", "rules_v2", 5, "repeated", "RuleV2"), ("Block", "symbols", 1, "repeated", "string"), ("Block", "version", 3, "optional", "uint32"), ("CheckV2", "queries", 1, "repeated", "RuleV2"), ("ExpressionV2", "ops", 1, "repeated", "Op"), ("FactV2", "predicate", 1, "required", "PredicateV2"), ("Op", "Binary", 3, "oneof", "OpBinary"), ("Op", "unary", 2, "oneof", "OpUnary"), ("Op", "value", 1, "oneof", "TermV2"), ("OpBinary", "kind", 1, "required", "Kind"), ("OpUnary", "kind", 1, "required", "Kind"), ("Policy", "kind", 2, "required", "Kind"), ("Policy", "queries", 1, "repeated", "RuleV2"), ("PredicateV2", "name", 1, "required", "uint64"), ("PredicateV2", "terms", 2, "repeated", "TermV2"), ("Proof", "finalSignature", 2, "oneof", "bytes"), ("Proof", "nextSecret", 1, "oneof", "bytes"), ("PublicKey", "algorithm", 1, "required", "Algorithm"), ("PublicKey", "key", 2, "required", "bytes"), ("RuleV2", "body", 2, "repeated", "PredicateV2"), ("RuleV2", "expressions", 3, "repeated", "ExpressionV2"), ("RuleV2", "head", 1, "required", "PredicateV2"), ("SignedBlock", "block", 1, "required", "bytes"), ("SignedBlock", "nextKey", 2, "required", "PublicKey"), ("SignedBlock", "signature", 3, "required", "bytes"), ("TermSet", "set", 1, "repeated", "TermV2"), ("TermV2", "bool", 6, "oneof", "bool"), ("TermV2", "bytes", 5, "oneof", "bytes"), ("TermV2", "date", 4, "oneof", "uint64"), ("TermV2", "integer", 2, "oneof", "int64"), ("TermV2", "set", 7, "oneof", "TermSet"), ("TermV2", "string", 3, "oneof", "uint64"), ("TermV2", "variable", 1, "oneof", "uint32")]
def publishedEnums : List (String × String × Nat) := [("OpBinary.Kind", "Add", 9), ("OpBinary.Kind", "And", 13), ("OpBinary.Kind", "Contains", 5), ("OpBinary.Kind", "Div", 12), ("OpBinary.Kind", "Equal", 4), ("OpBinary.Kind", "GreaterOrEqual", 3), ("OpBinary.Kind", "GreaterThan", 1), ("OpBinary.Kind", "Intersection", 15), ("OpBinary.Kind", "LessOrEqual", 2), ("OpBinary.Kind", "LessThan", 0), ("OpBinary.Kind", "Mul", 11), ("OpBinary.Kind", "Or", 14), ("OpBinary.Kind", "Prefix", 6), ("OpBinary.Kind", "Regex", 8), ("OpBinary.Kind", "Sub", 10), ("OpBinary.Kind", "Suffix", 7), ("OpBinary.Kind", "Union", 16), ("OpUnary.Kind", "Length", 2), ("OpUnary.Kind", "Negate", 0), ("OpUnary.Kind", "Parens", 1), ("Policy.Kind", "Allow", 0), ("Policy.Kind", "Deny", 1), ("PublicKey.Algorithm", "Ed25519", 0)]

theorem protoFields_tied : Generated.protoFields = publishedFields := rfl
theorem protoEnums_tied : Generated.protoEnums = publishedEnums := rfl

end Biscuit.Tables
