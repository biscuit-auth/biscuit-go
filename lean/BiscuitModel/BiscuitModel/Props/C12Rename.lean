/-
Props/C12Rename — C12, the "renaming variables consistently" clause.

A renaming `ρ : Bytes → Bytes` of variable names that is injective on the variables
of a rule (`ruleVars`: head ∪ body ∪ expressions) does not change anything the
engine computes from that rule: `Rule.Apply` returns the same facts in the same
order and the same error (unknown variable in an expression, head variable not
bound, evaluation error, panic). Consequently `World.Run`, `Authorize` and `Query`
are unchanged — as exact equalities, with no fragment hypothesis. The renaming may
be different for every rule; within one rule injectivity is necessary (merging two
variables changes the verdict, `merge_changes_verdict`).
-/
import BiscuitModel.Proofs.Rename

namespace Biscuit.C12Rename
open Biscuit Biscuit.Rename

/-- **C12 (renaming), one rule.** Exact equality of the produced fact list and of the
error component, for every fact set and accumulator. -/
theorem applyRule_rename (cfg : EvalCfg) (ρ : Bytes → Bytes) (r : DRule)
    (hinj : ∀ a ∈ ruleVars r, ∀ b ∈ ruleVars r, ρ a = ρ b → a = b)
    (facts acc : List DFact) :
    applyRule (evalBool cfg) (renameRule ρ r) facts acc = applyRule (evalBool cfg) r facts acc :=
  Rename.applyRule_rename cfg ρ r hinj facts acc

/-- The combinations themselves: the renamed body enumerates the renamed bindings,
same order, same multiplicity. -/
theorem solve_rename (ρ : Bytes → Bytes) (r : DRule)
    (hinj : ∀ a ∈ ruleVars r, ∀ b ∈ ruleVars r, ρ a = ρ b → a = b) (facts : List DFact) :
    solve facts (renameRule ρ r).body [] = (solve facts r.body []).map (renameBindings ρ) :=
  Rename.solve_rename (S := ruleVars r) hinj facts r.body [] domIn_nil
    fun p hp _ h => mem_ruleVars.mpr (.inr (.inl ⟨p, hp, h⟩))

/-- `World.QueryRule` on a renamed query returns the same facts. -/
theorem queryRule_rename (cfg : EvalCfg) (ρ : Bytes → Bytes) (q : DRule)
    (hinj : ∀ a ∈ ruleVars q, ∀ b ∈ ruleVars q, ρ a = ρ b → a = b) (facts : List DFact) :
    queryRule (evalBool cfg) (renameRule ρ q) facts = queryRule (evalBool cfg) q facts := by
  unfold queryRule
  rw [applyRule_rename cfg ρ q hinj facts []]

/-- **C12 (renaming), `World.Run`, one renaming per rule.** -/
theorem run_renameEach (cfg : EvalCfg) (mf mi : Nat) (rules : List DRule) (facts : List DFact)
    (ρs : DRule → Bytes → Bytes)
    (hinj : ∀ r ∈ rules, ∀ a ∈ ruleVars r, ∀ b ∈ ruleVars r, ρs r a = ρs r b → a = b) :
    run (evalBool cfg) mf (rules.map fun r => renameRule (ρs r) r) mi facts
      = run (evalBool cfg) mf rules mi facts :=
  run_map (evalBool cfg) (fun r => renameRule (ρs r) r) mf rules
    (fun r hr fs acc => Rename.applyRule_rename cfg (ρs r) r (hinj r hr) fs acc) mi facts

/-- **C12 (renaming), `World.Run`, one global renaming** injective on each rule's own
variables (it may identify variables of different rules). -/
theorem run_rename (cfg : EvalCfg) (mf mi : Nat) (rules : List DRule) (facts : List DFact)
    (ρ : Bytes → Bytes)
    (hinj : ∀ r ∈ rules, ∀ a ∈ ruleVars r, ∀ b ∈ ruleVars r, ρ a = ρ b → a = b) :
    run (evalBool cfg) mf (rules.map (renameRule ρ)) mi facts
      = run (evalBool cfg) mf rules mi facts :=
  run_renameEach cfg mf mi rules facts (fun _ => ρ) hinj

/-- One renaming per rule, applied to every rule and query of a token / authorizer. -/
def renameEach (ρs : DRule → Bytes → Bytes) (r : DRule) : DRule := renameRule (ρs r) r

/-- **C12 (renaming), `Authorize`, one renaming per rule**: same verdict (including
the identifiers of failed checks and the run error, if any), and the resulting
authorizer is the renamed original result. Holds for both reset modes. -/
theorem authorizeWith_renameEach (cfg : EvalCfg) (pinnedReset : Bool) (tok : Token) (s : AuthState)
    (ρs : DRule → Bytes → Bytes)
    (hinj : ∀ r ∈ tok.allRules ++ s.allRules, InjOn (ρs r) (ruleVars r)) :
    authorizeWith cfg pinnedReset (tok.mapRules (renameEach ρs)) (s.mapRules (renameEach ρs))
      = ((authorizeWith cfg pinnedReset tok s).1.mapRules (renameEach ρs),
         (authorizeWith cfg pinnedReset tok s).2) :=
  authorizeWith_map cfg (renameEach ρs) pinnedReset tok s
    (fun r hr fs acc => Rename.applyRule_rename cfg (ρs r) r (hinj r hr) fs acc)

/-- **C12 (renaming), `Authorize`.** Full strength: verdict and resulting state. -/
theorem authorize_rename (cfg : EvalCfg) (ρ : Bytes → Bytes) (tok : Token) (s : AuthState)
    (hinj : InjOnAll ρ tok s) :
    authorize cfg (renameToken ρ tok) (renameAuth ρ s)
      = (renameAuth ρ (authorize cfg tok s).1, (authorize cfg tok s).2) :=
  authorizeWith_renameEach cfg false tok s (fun _ => ρ) hinj

/-- The same for the pinned `Authorize` (defect D9 reset). -/
theorem authorizeWith_rename (cfg : EvalCfg) (pinnedReset : Bool) (ρ : Bytes → Bytes)
    (tok : Token) (s : AuthState) (hinj : InjOnAll ρ tok s) :
    authorizeWith cfg pinnedReset (renameToken ρ tok) (renameAuth ρ s)
      = (renameAuth ρ (authorizeWith cfg pinnedReset tok s).1, (authorizeWith cfg pinnedReset tok s).2) :=
  authorizeWith_renameEach cfg pinnedReset tok s (fun _ => ρ) hinj

theorem authorize_rename_verdict (cfg : EvalCfg) (ρ : Bytes → Bytes) (tok : Token) (s : AuthState)
    (hinj : InjOnAll ρ tok s) :
    (authorize cfg (renameToken ρ tok) (renameAuth ρ s)).2 = (authorize cfg tok s).2 := by
  rw [authorize_rename cfg ρ tok s hinj]

/-- Same derived facts, in the same order. -/
theorem authorize_rename_facts (cfg : EvalCfg) (ρ : Bytes → Bytes) (tok : Token) (s : AuthState)
    (hinj : InjOnAll ρ tok s) :
    (authorize cfg (renameToken ρ tok) (renameAuth ρ s)).1.world.facts
      = (authorize cfg tok s).1.world.facts := by
  rw [authorize_rename cfg ρ tok s hinj]
  rfl

/-- **C12 (renaming), `Query`.** Querying a renamed rule on the renamed authorizer
returns the same facts (or the same run error) and leaves the renamed state. The
renaming of the query may differ from the renaming of the authorizer's rules. -/
theorem query_renameEach (cfg : EvalCfg) (ρs : DRule → Bytes → Bytes) (s : AuthState) (q : DRule)
    (hs : ∀ r ∈ s.world.rules, InjOn (ρs r) (ruleVars r)) (hq : InjOn (ρs q) (ruleVars q)) :
    query cfg (s.mapRules (renameEach ρs)) (renameEach ρs q)
      = ((query cfg s q).1.mapRules (renameEach ρs), (query cfg s q).2) :=
  query_map cfg (renameEach ρs) s q
    (fun r hr fs acc => Rename.applyRule_rename cfg (ρs r) r (hs r hr) fs acc)
    (fun fs acc => Rename.applyRule_rename cfg (ρs q) q hq fs acc)

theorem query_rename (cfg : EvalCfg) (ρ : Bytes → Bytes) (s : AuthState) (q : DRule)
    (hs : ∀ r ∈ s.world.rules, InjOn ρ (ruleVars r)) (hq : InjOn ρ (ruleVars q)) :
    query cfg (renameAuth ρ s) (renameRule ρ q)
      = (renameAuth ρ (query cfg s q).1, (query cfg s q).2) :=
  query_renameEach cfg (fun _ => ρ) s q hs hq

theorem query_rename_result (cfg : EvalCfg) (ρ : Bytes → Bytes) (s : AuthState) (q : DRule)
    (hs : ∀ r ∈ s.world.rules, InjOn ρ (ruleVars r)) (hq : InjOn ρ (ruleVars q)) :
    (query cfg (renameAuth ρ s) (renameRule ρ q)).2 = (query cfg s q).2 := by
  rw [query_rename cfg ρ s q hs hq]

/-! Non-vacuity: a program on which swapping `$x` and `$y` is not the identity and is injective,
and one on which merging all variables changes the verdict. -/

def cfg0 : EvalCfg := { rx := fun _ _ => none }
def lim0 : Limits := { maxFacts := 1000, maxIter := 100 }

def x : Bytes := [120]
def y : Bytes := [121]
def z : Bytes := [122]

/-- Swap `$x` and `$y`, leave every other name alone. -/
def swapXY (n : Bytes) : Bytes := if n = x then y else if n = y then x else n

/-- Merge every variable into `$x`. -/
def mergeAll (_ : Bytes) : Bytes := x

def e (a b : Int) : DFact := { name := [101], args := [.atom (.int a), .atom (.int b)] }

/-- `p($y, $x) <- e($x, $y), $x < $y`. -/
def rLess : DRule :=
  { head := { name := [112], terms := [.var y, .var x] }
    body := [{ name := [101], terms := [.var x, .var y] }]
    exprs := [[.value (.var x), .value (.var y), .binary .lt]] }

/-- `q() <- p(2, 1)`. -/
def qP21 : DRule :=
  { head := { name := [113], terms := [] }
    body := [{ name := [112], terms := [.const (.atom (.int 2)), .const (.atom (.int 1))] }]
    exprs := [] }

/-- `q($x) <- p($x, $z), e($z, $y)`, a three-variable policy query. -/
def qJoin : DRule :=
  { head := { name := [113], terms := [.var x] }
    body := [{ name := [112], terms := [.var x, .var z] }, { name := [101], terms := [.var z, .var y] }]
    exprs := [] }

def tokR : Token :=
  { authority := { facts := [e 1 2, e 3 3], rules := [rLess], checks := [{ queries := [qP21] }] }
    blocks := [{ facts := [e 5 4], rules := [rLess], checks := [{ queries := [qJoin] }] }] }

def authR : AuthState := addPolicy (AuthState.fresh lim0) { kind := .allow, queries := [qJoin] }

/-- The swap is not the identity on the program … -/
example : renameToken swapXY tokR ≠ tokR := by decide
example : renameRule swapXY rLess =
    { head := { name := [112], terms := [.var x, .var y] }
      body := [{ name := [101], terms := [.var y, .var x] }]
      exprs := [[.value (.var y), .value (.var x), .binary .lt]] } := by decide
/-- … the hypothesis of `authorize_rename` holds … -/
example : InjOnAll swapXY tokR authR := by decide
/-- … and both presentations are accepted, with the same final state up to renaming. -/
example : (authorize cfg0 tokR authR).2 = .ok := by decide
example : (authorize cfg0 (renameToken swapXY tokR) (renameAuth swapXY authR)).2 = .ok := by decide
example : authorize cfg0 (renameToken swapXY tokR) (renameAuth swapXY authR)
    = (renameAuth swapXY (authorize cfg0 tokR authR).1, .ok) := by decide
/-- The rule does derive something (the run is not trivially empty). -/
example : (applyRule (evalBool cfg0) rLess [e 1 2, e 3 3] []) =
    ([{ name := [112], args := [.atom (.int 2), .atom (.int 1)] }], none) := by decide

/-- **Injectivity is necessary (engine).** Merging `$x` and `$y` turns
`p($y,$x) <- e($x,$y), $x < $y` into `p($x,$x) <- e($x,$x), $x < $x`. -/
theorem merge_changes_applyRule :
    ∃ (cfg : EvalCfg) (ρ : Bytes → Bytes) (r : DRule) (facts : List DFact),
      applyRule (evalBool cfg) (renameRule ρ r) facts [] ≠ applyRule (evalBool cfg) r facts [] :=
  ⟨cfg0, mergeAll, rLess, [e 1 2, e 3 3], by decide⟩

/-- **Injectivity is necessary (authorizer).** A non-injective renaming can turn an
accepted token into a rejected one. -/
theorem merge_changes_verdict :
    ∃ (cfg : EvalCfg) (ρ : Bytes → Bytes) (tok : Token) (s : AuthState),
      (authorize cfg tok s).2 = .ok ∧
      (authorize cfg (renameToken ρ tok) (renameAuth ρ s)).2 ≠ (authorize cfg tok s).2 :=
  ⟨cfg0, mergeAll, tokR, authR, by decide, by decide⟩

/-- The merged program fails the authority check `q() <- p(2,1)` and the block check. -/
example : (authorize cfg0 (renameToken mergeAll tokR) (renameAuth mergeAll authR)).2
    = .checksFailed [.block 0 0, .block 1 0] := by decide

/-- Merging can also *remove* an error: with `$y` unbound in the body, the original
rule reports an unknown variable, while the merged rule evaluates. So even the error
component is sensitive to non-injective renamings. -/
example :
    let r : DRule := { head := { name := [112], terms := [.var x] }
                       body := [{ name := [101], terms := [.var x, .var z] }]
                       exprs := [[.value (.var x), .value (.var y), .binary .le]] }
    (applyRule (evalBool cfg0) r [e 1 2] []).2 = some (.expr .unknownVar) ∧
    (applyRule (evalBool cfg0) (renameRule (fun n => if n = y then x else n) r) [e 1 2] []).2 = none := by
  decide

end Biscuit.C12Rename
