/-
Props/C05Odometer — the join enumerator of `combine` (datalog/datalog.go:489-633), modelled
literally in `Model/Odometer` (one fact index per body predicate, `current`, `advanceIndexes`
with carry), emits exactly the lexicographic specification; and the `solve` function of
`Model/Datalog`, on which every other C05 theorem is stated, equals that literal odometer
followed by the variable-extraction step.

Only property theorems and non-vacuity examples live here; helper lemmas are in
`Proofs/Odometer`, the definitions `goMatch`, `unifyAll`, `table` in `Model/OdometerTie`.
-/
import BiscuitModel.Proofs.Odometer

namespace Biscuit.Props.C05Odometer
open Biscuit Biscuit.Odometer

/-- **The odometer is exact.** For every match table `m`, every number of body predicates and
of facts, the Go odometer (with carry, with `current` moving back) reaches the extraction point
at exactly the index tuples whose facts match position-wise, in lexicographic order, each once:
no lost carry, no duplicate, no early termination, and the `fuelFor` iteration bound suffices. -/
theorem combos_eq_spec (m : Nat → Nat → Bool) (npreds nfacts : Nat) :
    Biscuit.Odometer.combos m npreds nfacts = Biscuit.Odometer.spec m npreds nfacts := by
  unfold combos spec
  by_cases hnp : npreds = 0
  · subst hnp; simp [tuples]
  · simp only [hnp, if_false]
    by_cases hnf : nfacts = 0
    · subst hnf
      obtain ⟨k, rfl⟩ : ∃ k, npreds = k + 1 := ⟨npreds - 1, by omega⟩
      simp [tuples]
    · simp only [hnf, if_false]
      rw [emitAll_spec m npreds nfacts _ ⟨0, _⟩ (init_inv npreds nfacts (by omega) (by omega))
        (init_cost_le npreds nfacts (by omega) (by omega))]
      exact init_rem m npreds nfacts (by omega)

/-- What is emitted: exactly the index tuples of the right length, in range, matching
position-wise (a reading of `spec` that does not mention its recursion). -/
theorem mem_combos_iff (m : Nat → Nat → Bool) (npreds nfacts : Nat) (idx : List Nat) :
    idx ∈ combos m npreds nfacts ↔
      idx.length = npreds ∧
        ∀ i, i < npreds → idx.getD i 0 < nfacts ∧ m i (idx.getD i 0) = true := by
  rw [combos_eq_spec, spec, mem_tuples]
  simp only [Nat.zero_add]

/-- The emission order is strictly increasing in the lexicographic order on index tuples. -/
theorem combos_sorted (m : Nat → Nat → Bool) (npreds nfacts : Nat) :
    (combos m npreds nfacts).Pairwise (· < ·) := by
  rw [combos_eq_spec]; exact tuples_sorted m nfacts npreds 0

/-- No index tuple is emitted twice. -/
theorem combos_nodup (m : Nat → Nat → Bool) (npreds nfacts : Nat) :
    (combos m npreds nfacts).Nodup :=
  (combos_sorted m npreds nfacts).imp (fun h e => by subst e; exact absurd h (List.lt_irrefl _))

variable {V : Type} [DecidableEq V]

/-- A successful variable extraction implies `Predicate.Match`; so testing `Match` first (as
the odometer does) discards only combinations that the extraction would reject anyway. -/
theorem unifyPred_some_goMatch (p : Pred V) (f : Fact V) (σ σ' : Bindings V)
    (h : unifyPred p f σ = some σ') : goMatch p f = true :=
  goMatch_of_unifyPred h

theorem not_goMatch_unifyPred_none (p : Pred V) (f : Fact V) (σ : Bindings V)
    (h : goMatch p f = false) : unifyPred p f σ = none :=
  unifyPred_none_of_not_goMatch σ h

/-- **`solve` is the Go odometer followed by the extraction step**: the literal odometer over
the `Predicate.Match` table of the body against the fact list, then, at each emitted index tuple,
binding the variables predicate by predicate (dropping the tuple on an inconsistent binding).
No hypothesis on the facts or the body. -/
theorem solve_eq_odometer (facts : List (Fact V)) (preds : List (Pred V)) :
    solve facts preds []
      = (combos (table facts preds) preds.length facts.length).filterMap
          (fun idx => unifyAll preds (idx.filterMap (fun j => facts[j]?)) []) := by
  rw [combos_eq_spec]
  exact solve_eq_tuples facts preds preds [] [] rfl

/-- Three predicates, three facts, the last predicate matches only the last fact: every
emission is followed by a carry out of the last position. -/
example :
    combos (fun i j => decide (i < 2) || decide (j = 2)) 3 3
      = [[0, 0, 2], [0, 1, 2], [0, 2, 2], [1, 0, 2], [1, 1, 2], [1, 2, 2],
         [2, 0, 2], [2, 1, 2], [2, 2, 2]] := by decide +kernel

/-- A table with a cascade of carries and dead prefixes: the middle predicate matches only
fact 1, the first only facts 0 and 2, the last only facts 0 and 2. -/
example :
    combos (fun i j => if i = 1 then decide (j = 1) else decide (j ≠ 1)) 3 3
      = [[0, 1, 0], [0, 1, 2], [2, 1, 0], [2, 1, 2]] := by decide +kernel

/-- Nothing matches the last predicate: the odometer runs through every prefix and stops. -/
example : combos (fun i _ => decide (i < 2)) 3 3 = [] := by decide +kernel

/-- Empty body: one empty combination; non-empty body over no facts: none. -/
example : combos (fun _ _ => true) 0 5 = [[]] := by decide +kernel
example : combos (fun _ _ => true) 2 0 = [] := by decide +kernel

private def nP : Bytes := [112]   -- "p"
private def vx : Bytes := [120]
private def vy : Bytes := [121]
private def vz : Bytes := [122]

/-- `p($x,$y), p($y,$z)` over `p(1,2), p(2,3), p(3,3)`: a self-join with a shared variable.
The odometer emits all nine index pairs (the table is all-true); the extraction step keeps
three. -/
example :
    solve (V := Nat) [⟨nP, [1, 2]⟩, ⟨nP, [2, 3]⟩, ⟨nP, [3, 3]⟩]
        [⟨nP, [.var vx, .var vy]⟩, ⟨nP, [.var vy, .var vz]⟩] []
      = [[(vz, 3), (vy, 2), (vx, 1)], [(vz, 3), (vy, 3), (vx, 2)], [(vz, 3), (vy, 3), (vx, 3)]] := by
  decide +kernel

example :
    (combos (table (V := Nat) [⟨nP, [1, 2]⟩, ⟨nP, [2, 3]⟩, ⟨nP, [3, 3]⟩]
        [⟨nP, [.var vx, .var vy]⟩, ⟨nP, [.var vy, .var vz]⟩]) 2 3).length = 9 := by decide +kernel

/-- With a constant in the body the table is no longer all-true: `p($x, 3), p($x, $y)`. -/
example :
    combos (table (V := Nat) [⟨nP, [1, 2]⟩, ⟨nP, [2, 3]⟩, ⟨nP, [3, 3]⟩]
        [⟨nP, [.var vx, .const 3]⟩, ⟨nP, [.var vx, .var vy]⟩]) 2 3
      = [[1, 0], [1, 1], [1, 2], [2, 0], [2, 1], [2, 2]] := by decide +kernel

example :
    solve (V := Nat) [⟨nP, [1, 2]⟩, ⟨nP, [2, 3]⟩, ⟨nP, [3, 3]⟩]
        [⟨nP, [.var vx, .const 3]⟩, ⟨nP, [.var vx, .var vy]⟩] []
      = [[(vy, 3), (vx, 2)], [(vy, 3), (vx, 3)]] := by decide +kernel

end Biscuit.Props.C05Odometer

