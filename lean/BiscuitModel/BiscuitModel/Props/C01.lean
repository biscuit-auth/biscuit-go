/-
Props/C01 — only an unbroken root-signed signature chain verifies.

`verifyChain` follows `authorizerFor` (biscuit.go:332-413) link by link. The theorems
quantify over every signature scheme `S`; unforgeability enters only as an explicit
hypothesis (`Unforgeable`), never as an axiom.

The chain walk is characterised first (`verifyChain_iff`); the tamper theorems are its
contrapositives, and the third sentence is `ChainOK` as an invariant of derivation histories.
-/
import BiscuitModel.Proofs.Token

namespace Biscuit.C01
open Biscuit Biscuit.Wire

/-- Every link is signed by the key announced by its predecessor (the first by `k`). -/
def LinksOK (S : SigScheme) : Bytes → List SignedBlockMsg → Prop
  | _, [] => True
  | k, sb :: rest =>
    sb.nextKey.algorithm = ed25519Alg ∧ S.verify k (blockPayload sb) sb.signature = true ∧
    sb.nextKey.key.length = 32 ∧ LinksOK S sb.nextKey.key rest

def lastAnnounced (e : BiscuitMsg) : Bytes := (lastBlock e).nextKey.key

/-- The closing proof matches the last announced key. -/
def ProofOK (S : SigScheme) (e : BiscuitMsg) : Prop :=
  match e.proof with
  | .nextSecret sk => sk.length = 32 ∧ S.pub sk = lastAnnounced e
  | .finalSignature sig => S.verify (lastAnnounced e) (sealPayload (lastBlock e)) sig = true
  | .empty => False

/-- The right-hand side of C01's first sentence: every link is signed by the key its predecessor
announces (the authority block by `root`), and the closing proof matches the last announced key. -/
def ChainOK (S : SigScheme) (root : Bytes) (e : BiscuitMsg) : Prop :=
  LinksOK S root (e.authority :: e.blocks) ∧ ProofOK S e

theorem finalKey_envelope (root : Bytes) (e : BiscuitMsg) :
    finalKey root (e.authority :: e.blocks) = lastAnnounced e := by
  simp only [finalKey, lastAnnounced, lastBlock, List.getLast?_cons]
  rfl

theorem verifyLink_ok_iff (S : SigScheme) (k : Bytes) (sb : SignedBlockMsg) (next : Bytes) :
    verifyLink S k sb = .ok next ↔
      sb.nextKey.algorithm = ed25519Alg ∧ S.verify k (blockPayload sb) sb.signature = true ∧
      sb.nextKey.key.length = 32 ∧ next = sb.nextKey.key := by
  unfold verifyLink
  by_cases h1 : sb.nextKey.algorithm = ed25519Alg <;>
  by_cases h2 : S.verify k (blockPayload sb) sb.signature = true <;>
  by_cases h3 : sb.nextKey.key.length = 32 <;>
    simp [h1, h2, h3, eq_comm]

theorem verifyLinks_ok_iff (S : SigScheme) (k : Bytes) (l : List SignedBlockMsg) (cur : Bytes) :
    verifyLinks S k l = .ok cur ↔ LinksOK S k l ∧ cur = finalKey k l := by
  induction l generalizing k with
  | nil => simp [verifyLinks, LinksOK, finalKey_nil, eq_comm]
  | cons sb rest ih =>
    have step : verifyLinks S k (sb :: rest) = .ok cur ↔
        ∃ next, verifyLink S k sb = .ok next ∧ verifyLinks S next rest = .ok cur := by
      simp only [verifyLinks]; cases verifyLink S k sb <;> simp
    simp only [step, verifyLink_ok_iff, ih, LinksOK, finalKey_cons]
    constructor
    · rintro ⟨_, ⟨a, b, c, rfl⟩, d, e⟩; exact ⟨⟨a, b, c, d⟩, e⟩
    · rintro ⟨⟨a, b, c, d⟩, e⟩; exact ⟨_, ⟨a, b, c, rfl⟩, d, e⟩

theorem LinksOK_append_singleton (S : SigScheme) (k : Bytes) (l : List SignedBlockMsg) (sb : SignedBlockMsg) :
    LinksOK S k (l ++ [sb]) ↔
      LinksOK S k l ∧ sb.nextKey.algorithm = ed25519Alg ∧
      S.verify (finalKey k l) (blockPayload sb) sb.signature = true ∧ sb.nextKey.key.length = 32 := by
  induction l generalizing k with
  | nil => simp [LinksOK, finalKey_nil]
  | cons a rest ih => simp only [List.cons_append, LinksOK, finalKey_cons, ih, and_assoc]

theorem verifyProof_ok_iff (S : SigScheme) (e : BiscuitMsg) :
    verifyProof S (lastAnnounced e) e = .ok () ↔ ProofOK S e := by
  unfold verifyProof ProofOK
  cases e.proof with
  | nextSecret sk =>
    by_cases h1 : sk.length = 32 <;> by_cases h2 : S.pub sk = lastAnnounced e <;> simp [h1, h2]
  | finalSignature sig =>
    by_cases h : S.verify (lastAnnounced e) (sealPayload (lastBlock e)) sig = true <;> simp [h]
  | empty => simp

/-- **C01, first sentence.** The chain walk of `authorizerFor` accepts iff the chain is unbroken
and the proof matches — for every scheme, root key and number of blocks. -/
theorem verifyChain_iff (S : SigScheme) (root : Bytes) (e : BiscuitMsg) :
    verifyChain S root e = .ok () ↔ ChainOK S root e := by
  have step : verifyChain S root e = .ok () ↔
      ∃ cur, verifyLinks S root (e.authority :: e.blocks) = .ok cur ∧ verifyProof S cur e = .ok () := by
    unfold verifyChain; cases verifyLinks S root (e.authority :: e.blocks) <;> simp
  simp only [step, verifyLinks_ok_iff, finalKey_envelope, ChainOK, ← verifyProof_ok_iff]
  exact ⟨fun ⟨_, ⟨hl, rfl⟩, hp⟩ => ⟨hl, hp⟩, fun ⟨hl, hp⟩ => ⟨_, ⟨hl, rfl⟩, hp⟩⟩

/-- Rejection is the only alternative to acceptance: the form in which the tamper theorems
use `verifyChain_iff`. -/
theorem verifyChain_error_of_not (S : SigScheme) (root : Bytes) (e : BiscuitMsg) (h : ¬ ChainOK S root e) :
    ∃ r, verifyChain S root e = .error r := by
  rw [← verifyChain_iff] at h
  cases hv : verifyChain S root e with
  | ok u => exact absurd hv h
  | error r => exact ⟨r, rfl⟩

theorem ProofOK_nextSecret {S : SigScheme} {e : BiscuitMsg} {sk : Bytes} (hp : e.proof = .nextSecret sk) :
    ProofOK S e ↔ sk.length = 32 ∧ S.pub sk = lastAnnounced e := by
  unfold ProofOK; rw [hp]

theorem ProofOK_finalSignature {S : SigScheme} {e : BiscuitMsg} {sig : Bytes} (hp : e.proof = .finalSignature sig) :
    ProofOK S e ↔ S.verify (lastAnnounced e) (sealPayload (lastBlock e)) sig = true := by
  unfold ProofOK; rw [hp]

/-- Each link paired with the key it must verify under. -/
def linkKeys (root : Bytes) (sbs : List SignedBlockMsg) : List (Bytes × SignedBlockMsg) :=
  (root :: sbs.map (·.nextKey.key)).zip sbs

theorem LinksOK_zip (S : SigScheme) (k : Bytes) (l : List SignedBlockMsg) (h : LinksOK S k l) :
    ∀ ks ∈ linkKeys k l, S.verify ks.1 (blockPayload ks.2) ks.2.signature = true := by
  induction l generalizing k with
  | nil => intro ks hks; simp [linkKeys] at hks
  | cons sb rest ih =>
    obtain ⟨_, hv, _, hr⟩ := h
    intro ks hks
    simp only [linkKeys, List.map_cons, List.zip_cons_cons, List.mem_cons] at hks
    rcases hks with rfl | hks
    · exact hv
    · exact ih _ hr ks hks

/-- With the decode-time size gates: acceptance of a decoded envelope. -/
theorem accept_iff (S : SigScheme) (root : Bytes) (e : BiscuitMsg) :
    accept S root e = .ok () ↔
      (∀ sb ∈ e.authority :: e.blocks, sb.nextKey.key.length = 32 ∧ sb.signature.length = 64) ∧
      root ≠ [] ∧ ChainOK S root e := by
  unfold accept
  rw [← verifyChain_iff, ← sizeGates_ok_iff]
  cases hs : sizeGates e with
  | error r => simp [bind, Except.bind]
  | ok u =>
    cases root with
    | nil => simp [bind, Except.bind]
    | cons b bs => simp [bind, Except.bind]

/-- The signed byte string determines every field it is meant to bind: two signed
blocks with 32-byte keys and the same payload have the same block bytes, algorithm and
announced key. (A field left out of the payload would falsify this.) -/
theorem payload_injective (a b : SignedBlockMsg)
    (ha : a.nextKey.key.length = 32) (hb : b.nextKey.key.length = 32)
    (hA : a.nextKey.algorithm < 2^32) (hB : b.nextKey.algorithm < 2^32)
    (h : blockPayload a = blockPayload b) :
    a.block = b.block ∧ a.nextKey.algorithm = b.nextKey.algorithm ∧ a.nextKey.key = b.nextKey.key :=
  blockPayload_inj a b (by rw [ha, hb]) hA hB h

/-- The seal payload additionally binds the last signature. -/
theorem sealPayload_injective (a b : SignedBlockMsg)
    (ha : a.nextKey.key.length = 32) (hb : b.nextKey.key.length = 32)
    (hA : a.nextKey.algorithm < 2^32) (hB : b.nextKey.algorithm < 2^32)
    (hsa : a.signature.length = 64) (hsb : b.signature.length = 64)
    (h : sealPayload a = sealPayload b) :
    a.block = b.block ∧ a.nextKey.algorithm = b.nextKey.algorithm ∧ a.nextKey.key = b.nextKey.key ∧
    a.signature = b.signature := by
  unfold sealPayload at h
  obtain ⟨h1, hsig⟩ := List.append_inj' h (by rw [hsa, hsb])
  obtain ⟨x, y, z⟩ := payload_injective a b ha hb hA hB h1
  exact ⟨x, y, z, hsig⟩

/-- Idealised unforgeability: every verifying triple was produced by the holder of the
secret key (`Issued pk m s`). A *hypothesis* of the theorems below. -/
def Unforgeable (S : SigScheme) (Issued : Bytes → Bytes → Bytes → Prop) : Prop :=
  ∀ pk m s, S.verify pk m s = true → Issued pk m s

/-- **C01, second sentence (forgery resistance).** Under `Unforgeable`, acceptance means that every
block was signed, in its position, by the holder of the key its predecessor announces (the root key
for the authority block), and the proof was made by the holder of the last announced secret. -/
theorem accepted_is_issued (S : SigScheme) (Issued : Bytes → Bytes → Bytes → Prop)
    (hU : Unforgeable S Issued) (root : Bytes) (e : BiscuitMsg)
    (h : verifyChain S root e = .ok ()) :
    (∀ ks ∈ linkKeys root (e.authority :: e.blocks), Issued ks.1 (blockPayload ks.2) ks.2.signature) ∧
    (match e.proof with
     | .nextSecret sk => S.pub sk = lastAnnounced e
     | .finalSignature sig => Issued (lastAnnounced e) (sealPayload (lastBlock e)) sig
     | .empty => False) := by
  obtain ⟨hl, hp⟩ := (verifyChain_iff S root e).1 h
  refine ⟨fun ks hks => hU _ _ _ (LinksOK_zip S root _ hl ks hks), ?_⟩
  cases hpr : e.proof with
  | nextSecret sk => exact ((ProofOK_nextSecret hpr).1 hp).2
  | finalSignature sig => exact hU _ _ _ ((ProofOK_finalSignature hpr).1 hp)
  | empty => unfold ProofOK at hp; rw [hpr] at hp; exact hp

/-- Contrapositive, one corollary for every manipulation in C01's quantifier: an envelope with a
link that the holder of the corresponding key never signed — a changed block byte, announced key or
signature; a block moved, inserted or taken from another token — is rejected. -/
theorem unissued_link_rejected (S : SigScheme) (Issued : Bytes → Bytes → Bytes → Prop)
    (hU : Unforgeable S Issued) (root : Bytes) (e : BiscuitMsg)
    (ks : Bytes × SignedBlockMsg) (hks : ks ∈ linkKeys root (e.authority :: e.blocks))
    (hnot : ¬ Issued ks.1 (blockPayload ks.2) ks.2.signature) :
    ∃ r, verifyChain S root e = .error r :=
  verifyChain_error_of_not S root e fun h =>
    hnot ((accepted_is_issued S Issued hU root e ((verifyChain_iff S root e).2 h)).1 ks hks)

/-- A replaced proof is rejected unless its maker holds the last announced secret. -/
theorem foreign_proof_rejected (S : SigScheme) (Issued : Bytes → Bytes → Bytes → Prop)
    (hU : Unforgeable S Issued) (root : Bytes) (e : BiscuitMsg) (sig : Bytes)
    (hp : e.proof = .finalSignature sig)
    (hnot : ¬ Issued (lastAnnounced e) (sealPayload (lastBlock e)) sig) :
    ∃ r, verifyChain S root e = .error r :=
  verifyChain_error_of_not S root e fun h => hnot (hU _ _ _ ((ProofOK_finalSignature hp).1 h.2))

theorem wrong_secret_rejected (S : SigScheme) (root : Bytes) (e : BiscuitMsg) (sk : Bytes)
    (hp : e.proof = .nextSecret sk) (hne : S.pub sk ≠ lastAnnounced e) :
    ∃ r, verifyChain S root e = .error r :=
  verifyChain_error_of_not S root e fun h => hne ((ProofOK_nextSecret hp).1 h.2).2

/-- Correctness of a scheme: signatures made with a seed verify under its public key,
and public keys have 32 bytes. (ed25519 satisfies this; it is what the third sentence needs.) -/
structure SchemeCorrect (S : SigScheme) : Prop where
  verifies : ∀ sk m, S.verify (S.pub sk) m (S.sign sk m) = true
  pubLen : ∀ sk, (S.pub sk).length = 32

theorem build_chainOK {S : SigScheme} (hS : SchemeCorrect S) {rootSeed : Bytes} {id : Option Nat} {block : Bytes}
    {rng rng' : Rng} {e : BiscuitMsg}
    (h : buildEnvelope S rootSeed id block rng = .ok (e, rng')) : ChainOK S (S.pub rootSeed) e := by
  obtain ⟨seed, hd, rfl⟩ := buildEnvelope_ok S rootSeed id block rng rng' e h
  exact ⟨⟨rfl, hS.verifies rootSeed _, hS.pubLen seed, trivial⟩, drawSeed_length rng seed rng' hd, rfl⟩

theorem append_chainOK {S : SigScheme} (hS : SchemeCorrect S) {keep : Bool} {root : Bytes} {e e' : BiscuitMsg}
    {block : Bytes} {rng rng' : Rng}
    (hg : ChainOK S root e) (h : appendEnvelopeWith keep S e block rng = .ok (e', rng')) :
    ChainOK S root e' := by
  obtain ⟨sk, seed, hp, -, hd, rfl⟩ := appendEnvelopeWith_ok keep S e block rng rng' e' h
  obtain ⟨-, hpk⟩ := (ProofOK_nextSecret hp).1 hg.2
  refine ⟨?_, (ProofOK_nextSecret rfl).2 ⟨drawSeed_length rng seed rng' hd, ?_⟩⟩
  · show LinksOK S root (e.authority :: (e.blocks ++ [_]))
    rw [← List.cons_append, LinksOK_append_singleton, finalKey_envelope, ← hpk]
    exact ⟨hg.1, rfl, hS.verifies sk _, hS.pubLen seed⟩
  · simp [lastAnnounced, lastBlock]

theorem seal_chainOK {S : SigScheme} (hver : ∀ sk m, S.verify (S.pub sk) m (S.sign sk m) = true)
    {keep : Bool} {root : Bytes} {e e' : BiscuitMsg}
    (hg : ChainOK S root e) (h : sealEnvelopeWith keep S e = .ok e') : ChainOK S root e' := by
  obtain ⟨sk, hp, -, rfl⟩ := sealEnvelopeWith_ok keep S e e' h
  obtain ⟨-, hpk⟩ := (ProofOK_nextSecret hp).1 hg.2
  refine ⟨hg.1, (ProofOK_finalSignature rfl).2 ?_⟩
  show S.verify (lastAnnounced e) (sealPayload (lastBlock e)) _ = true
  rw [← hpk]
  exact hver sk _

/-- A good chain has algorithm tag 0 everywhere, so a reload changes at most `rootKeyId`. -/
theorem LinksOK_map_normSB {S : SigScheme} {k : Bytes} {l : List SignedBlockMsg} (h : LinksOK S k l) :
    l.map normSB = l := by
  induction l generalizing k with
  | nil => rfl
  | cons sb rest ih =>
    obtain ⟨ha, _, _, hr⟩ := h
    rw [List.map_cons, ih hr, normSB_eq sb (by rw [ha]; decide)]

theorem reload_chainOK {S : SigScheme} {root : Bytes} {e e' : BiscuitMsg}
    (hg : ChainOK S root e) (h : reload e = some e') : ChainOK S root e' := by
  have hm := LinksOK_map_normSB hg.1
  rw [List.map_cons, List.cons.injEq] at hm
  have : e' = { e with rootKeyId := e.rootKeyId.map (· % 2^32) } := by
    rw [reload_some e e' h]
    simp only [normEnv, hm.1, hm.2]
  rw [this]
  exact hg

theorem derive_chainOK {S : SigScheme} (hS : SchemeCorrect S) {keep : Bool} {root : Bytes} {e e' : BiscuitMsg}
    {op : DeriveOp} (hg : ChainOK S root e) (h : derive keep S e op = .ok e') : ChainOK S root e' := by
  rcases op with ⟨block, rng⟩ | _ | _
  · obtain ⟨rng', ha⟩ := derive_append_ok_iff.1 h
    exact append_chainOK hS hg ha
  · exact seal_chainOK hS.verifies hg h
  · exact reload_chainOK hg (derive_reload_ok_iff.1 h)

/-- Invariant of library-built tokens: the chain verifies and the proof matches. -/
def GoodEnvelope (S : SigScheme) (root : Bytes) (e : BiscuitMsg) : Prop := verifyChain S root e = .ok ()

/-- The chain is an invariant of every derivation history, reloads included. -/
theorem built_tokens_verify_all (S : SigScheme) (hS : SchemeCorrect S) (rootSeed : Bytes)
    (id : Option Nat) (block : Bytes) (rng : Rng) (e0 : BiscuitMsg) (rng' : Rng)
    (hb : buildEnvelope S rootSeed id block rng = .ok (e0, rng'))
    (ops : List DeriveOp) (e : BiscuitMsg)
    (hd : deriveAll true S e0 ops = .ok e) :
    verifyChain S (S.pub rootSeed) e = .ok () :=
  (verifyChain_iff ..).2 <|
    deriveAll_invariant (fun _ _ _ => derive_chainOK hS) (build_chainOK hS hb) hd

/-- **C01, third sentence.** Every token produced by building, then any sequence of
attenuations and sealing (each with any block bytes and any random source that
delivers), is accepted under the matching root key. -/
theorem built_tokens_verify (S : SigScheme) (hS : SchemeCorrect S) (rootSeed : Bytes)
    (id : Option Nat) (block : Bytes) (rng : Rng) (e0 : BiscuitMsg) (rng' : Rng)
    (hb : buildEnvelope S rootSeed id block rng = .ok (e0, rng'))
    (ops : List DeriveOp) (hops : ∀ op ∈ ops, op ≠ .reload) (e : BiscuitMsg)
    (hd : deriveAll true S e0 ops = .ok e) :
    verifyChain S (S.pub rootSeed) e = .ok () := by
  -- `hops` is part of the statement; histories with reloads verify as well
  have _ := hops
  exact built_tokens_verify_all S hS rootSeed id block rng e0 rng' hb ops e hd

/-! Non-vacuity: a toy scheme (signature = key ‖ message) under which a concrete
two-block envelope satisfies `ChainOK`. -/

def pad32 (b : Bytes) : Bytes := (b ++ List.replicate 32 0).take 32
def toy : SigScheme :=
  { pub := fun sk => pad32 sk, sign := fun sk m => pad32 sk ++ m, verify := fun pk m s => s == pk ++ m }

theorem toy_correct : SchemeCorrect toy := by
  constructor
  · intro sk m; simp [toy]
  · intro sk; simp [toy, pad32]

def rootSeed0 : Bytes := List.replicate 32 1
def seedA : Bytes := List.replicate 32 2
def seedB : Bytes := List.replicate 32 3

def sample : Except Reject BiscuitMsg := do
  let (e0, _) ← buildEnvelope toy rootSeed0 (some 7) [10, 11] [.chunk seedA]
  deriveAll true toy e0 [.append [12] [.chunk (seedB.take 10), .chunk (seedB.drop 10)], .seal]

/-- The hypotheses of `verifyChain_iff` / `built_tokens_verify` are satisfiable: build ; append ; seal
yields an envelope that the chain walk accepts, and a one-byte change to its second block is rejected. -/
theorem sample_accepted :
    ∃ e, sample = .ok e ∧ e.blocks.length = 1 ∧ verifyChain toy (toy.pub rootSeed0) e = .ok () :=
  ⟨_, rfl, rfl, rfl⟩

theorem sample_tampered_rejected :
    ∃ e sb, sample = .ok e ∧ e.blocks = [sb] ∧
      verifyChain toy (toy.pub rootSeed0) { e with blocks := [{ sb with block := [13] }] } = .error .signature :=
  ⟨_, _, rfl, rfl, rfl⟩

end Biscuit.C01
