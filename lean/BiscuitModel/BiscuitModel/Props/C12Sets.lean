/-
Props/C12Sets — sets hold each element once (finding D19).

At the engine level a set is a raw list (datalog.Set is a slice). `Set.Equal` — and with it
fact de-duplication — ignores repeated elements, while `length` and `intersection` count
them: on raw lists two facts that are "equal" can give different answers, so the outcome
depends on which of them was supplied first (`raw_sets_disagree`). The token layer adds
an element to a set only when absent (Model/Construct.dedup); on such sets equality is
extensional and every operator respects it, so equal sets are interchangeable.
-/
import BiscuitModel.Model.Construct

namespace Biscuit.C12Sets
open Biscuit Biscuit.Construct

theorem dedup_nodup (l : List Atom) : (dedup l).Nodup := by
  induction l with
  | nil => exact List.nodup_nil
  | cons x xs ih =>
    simp only [dedup, List.nodup_cons]
    refine ⟨?_, ih.filter _⟩
    simp [List.mem_filter]

theorem mem_dedup (l : List Atom) (a : Atom) : a ∈ dedup l ↔ a ∈ l := by
  induction l with
  | nil => simp [dedup]
  | cons x xs ih =>
    simp only [dedup, List.mem_cons, List.mem_filter, ih]
    by_cases h : a = x <;> simp [h]

/-- A set written without repeats is kept exactly as written. -/
theorem dedup_of_nodup (l : List Atom) (h : l.Nodup) : dedup l = l := by
  induction l with
  | nil => rfl
  | cons x xs ih =>
    rw [List.nodup_cons] at h
    simp only [dedup, ih h.2]
    congr 1
    apply List.filter_eq_self.mpr
    intro a ha
    simp
    intro e; subst e; exact h.1 ha

theorem dedup_idem (l : List Atom) : dedup (dedup l) = dedup l := dedup_of_nodup _ (dedup_nodup l)

/-- On duplicate-free sets `Set.Equal` is extensional equality. -/
theorem setEqual_iff (s c : List Atom) (hs : s.Nodup) (hc : c.Nodup) :
    setEqual s c = true ↔ ∀ a, a ∈ s ↔ a ∈ c := by
  simp only [setEqual, Bool.and_eq_true, beq_iff_eq, List.all_eq_true, List.contains_iff_mem]
  constructor
  · rintro ⟨⟨_, h1⟩, h2⟩ a
    exact ⟨h1 a, h2 a⟩
  · intro h
    have hp : s.Perm c := (List.perm_ext_iff_of_nodup hs hc).mpr h
    exact ⟨⟨hp.length_eq, fun a ha => (h a).mp ha⟩, fun a ha => (h a).mpr ha⟩

/-- Equal duplicate-free sets have the same length … -/
theorem length_congr (s c : List Atom) (hs : s.Nodup) (hc : c.Nodup) (h : setEqual s c = true) :
    s.length = c.length :=
  ((List.perm_ext_iff_of_nodup hs hc).mpr ((setEqual_iff s c hs hc).mp h)).length_eq

/-- … equal intersections with any set (as sets, and in length) … -/
theorem intersect_congr (s c t : List Atom) (hs : s.Nodup) (hc : c.Nodup) (h : setEqual s c = true) :
    setEqual (setIntersect s t) (setIntersect c t) = true ∧
    (setIntersect s t).length = (setIntersect c t).length := by
  have hm := (setEqual_iff s c hs hc).mp h
  have h1 : (setIntersect s t).Nodup := hs.filter _
  have h2 : (setIntersect c t).Nodup := hc.filter _
  have hmem : ∀ a, a ∈ setIntersect s t ↔ a ∈ setIntersect c t := by
    intro a
    simp only [setIntersect, List.mem_filter, hm a]
  exact ⟨(setEqual_iff _ _ h1 h2).mpr hmem, ((List.perm_ext_iff_of_nodup h1 h2).mpr hmem).length_eq⟩

/-- … the same members and inclusions. -/
theorem contains_congr (s c : List Atom) (hs : s.Nodup) (hc : c.Nodup) (h : setEqual s c = true)
    (sub : List Atom) : setIncludes s sub = setIncludes c sub := by
  have hm := (setEqual_iff s c hs hc).mp h
  have key : ∀ x, s.contains x = c.contains x := by
    intro x
    rw [Bool.eq_iff_iff, List.contains_iff_mem, List.contains_iff_mem]
    exact hm x
  simp only [setIncludes, key]

/-- Intersection and union of duplicate-free sets are duplicate-free: the invariant is kept
by the operators, so it holds for every value an evaluation can produce. -/
theorem intersect_nodup (s t : List Atom) (hs : s.Nodup) : (setIntersect s t).Nodup := hs.filter _

theorem union_nodup (s t : List Atom) (hs : s.Nodup) (ht : t.Nodup) : (setUnion s t).Nodup := by
  simp only [setUnion]
  refine List.nodup_append.mpr ⟨hs, ht.filter _, ?_⟩
  intro a ha b hb
  simp only [List.mem_filter] at hb
  intro e; subst e
  simp at hb
  exact hb.2 ha

/-- **D19, engine level, raw lists.** `[1,1,2]` and `[1,2,2]` are `Equal` (so one of the two
facts carrying them is dropped as a duplicate), yet their intersections with `[1]` have
different lengths: which fact survives — the first supplied — decides a check on that length. -/
theorem raw_sets_disagree :
    setEqual [.int 1, .int 1, .int 2] [.int 1, .int 2, .int 2] = true ∧
    (setIntersect [.int 1, .int 1, .int 2] [.int 1]).length ≠
    (setIntersect [.int 1, .int 2, .int 2] [.int 1]).length := by decide

/-- After construction-time normalisation the two written sets are the same set and agree. -/
example : setEqual (dedup [.int 1, .int 1, .int 2]) (dedup [.int 1, .int 2, .int 2]) = true ∧
    (setIntersect (dedup [.int 1, .int 1, .int 2]) [.int 1]).length =
    (setIntersect (dedup [.int 1, .int 2, .int 2]) [.int 1]).length := by decide

end Biscuit.C12Sets
