/-
Props/C18 — an authorizer snapshot restores an equivalent authorizer.

Two levels. String level (`Model/Authorizer.save` / `load`): the restored authorizer is
*equal* to the original, hence gives the same outcome and query results for every token.
Wire level (`Model/Symbols.buildSnapshotMsg` / `resolveSnapshot`, `Model/Wire`): what is
written re-reads as the same content through the symbol re-indexing.
`afterAdds lim ops`, a fresh authorizer after the content additions among `ops`, is declared
in Proofs/Snapshot.
-/
import BiscuitModel.Proofs.WireRoundtrip
import BiscuitModel.Proofs.Symbols
import BiscuitModel.Proofs.Snapshot
import BiscuitModel.Proofs.Authorizer

namespace Biscuit.C18
open Biscuit Biscuit.Wire

/-- An authorizer that has only been given content can be saved. -/
theorem save_unevaluated (lim : Limits) (ops : List AuthOp) : ∃ snap, save (afterAdds lim ops) = some snap := by
  have hinv : SnapInv lim (afterAdds lim ops) := snap_inv_afterAdds lim ops
  exact ⟨_, snap_save_of_inv lim _ hinv⟩

/-- **C18.** Loading the snapshot into a fresh authorizer yields *the same authorizer
state* — for any content (all term types, any symbols, several checks, ordered policies
of both kinds) … -/
theorem snapshot_restores (lim : Limits) (ops : List AuthOp) (snap : Snapshot)
    (h : save (afterAdds lim ops) = some snap) :
    load (AuthState.fresh lim) snap = afterAdds lim ops := by
  have hinv : SnapInv lim (afterAdds lim ops) := snap_inv_afterAdds lim ops
  rw [snap_save_of_inv lim _ hinv] at h
  cases h
  exact snap_load_of_inv lim _ hinv

/-- … hence the same authorization outcome and the same query results, for every token
and every continuation of operations. -/
theorem snapshot_equiv (cfg : EvalCfg) (lim : Limits) (ops : List AuthOp) (snap : Snapshot)
    (h : save (afterAdds lim ops) = some snap) (toks : List Token) (j : Nat) (k : List AuthOp) :
    runSeq cfg false toks { tok := j, auth := load (AuthState.fresh lim) snap } k =
    runSeq cfg false toks { tok := j, auth := afterAdds lim ops } k := by
  rw [snapshot_restores lim ops snap h]

/-- The order of policies is preserved by save/load. -/
theorem snapshot_keeps_policy_order (lim : Limits) (ops : List AuthOp) (snap : Snapshot)
    (h : save (afterAdds lim ops) = some snap) : snap.policies = (afterAdds lim ops).policies := by
  have hinv : SnapInv lim (afterAdds lim ops) := snap_inv_afterAdds lim ops
  rw [snap_save_of_inv lim _ hinv] at h
  cases h
  rfl

/-- Saving is refused once the authorizer has been evaluated. -/
theorem save_refused_when_dirty (s : AuthState) (h : s.dirty = true) : save s = none := by
  unfold save
  rw [h]
  rfl

/-- Every `Authorize` counts as an evaluation — also one that stopped at a limit, on an
expression error or on an invalid rule (the world holds the token's facts by then). -/
theorem authorize_sets_dirty (cfg : EvalCfg) (tok : Token) (s : AuthState) :
    (authorize cfg tok s).1.dirty = true := by
  rw [authorize_fst]

theorem query_sets_dirty (cfg : EvalCfg) (s : AuthState) (q : DRule) :
    (query cfg s q).1.dirty = true := by
  rw [query_fst]

/-- Hence: after `Authorize` or `Query`, with any outcome, saving is refused. -/
theorem save_refused_after_authorize (cfg : EvalCfg) (tok : Token) (s : AuthState) :
    save (authorize cfg tok s).1 = none :=
  save_refused_when_dirty _ (authorize_sets_dirty cfg tok s)

theorem save_refused_after_query (cfg : EvalCfg) (s : AuthState) (q : DRule) :
    save (query cfg s q).1 = none :=
  save_refused_when_dirty _ (query_sets_dirty cfg s q)

/-- Symbol re-indexing: the snapshot message, resolved through its own table as
`LoadPolicies` does on a fresh authorizer, gives back facts, rules, checks and policies. -/
theorem snapshot_build_then_resolve (snap : Snapshot) :
    resolveSnapshot (buildSnapshotMsg snap) = some snap := by
  obtain ⟨g1, _⟩ := interns_facts [] snap.facts
  obtain ⟨g2, _⟩ := interns_rules (internFacts [] snap.facts).1 snap.rules
  obtain ⟨g3, _⟩ := interns_checks (internRules (internFacts [] snap.facts).1 snap.rules).1 snap.checks
  obtain ⟨g4, r4⟩ := interns_policies
    (internChecks (internRules (internFacts [] snap.facts).1 snap.rules).1 snap.checks).1 snap.policies
  have r1 := interns_facts.later [] snap.facts ((g2.trans g3).trans g4) []
  have r2 := interns_rules.later _ snap.rules (g3.trans g4) []
  have r3 := interns_checks.later _ snap.checks g4 []
  have r4 := r4 []
  simp only [List.append_nil] at r1 r2 r3 r4
  have hfresh := freshSymbols_iff.mpr (((g1.trans g2).trans g3).trans g4).drop_fresh
  rw [List.length_nil, List.drop_zero] at hfresh
  simp only [buildSnapshotMsg, resolveSnapshot, hfresh, r1, r2, r3, r4, Option.bind_eq_bind, Option.bind_some,
    Bool.not_true, Bool.false_eq_true, if_false, ne_eq, not_true_eq_false]
  rfl

def PolicyWF (p : IPolicy) : Prop := p.kind < 2^31 ∧ p.queries.length < 2^20 ∧ ∀ q ∈ p.queries, RuleWF q

def PoliciesWF (m : PoliciesMsg) : Prop :=
  m.symbols.length < 2^20 ∧ (∀ s ∈ m.symbols, s.length < 2^32) ∧ (∀ v, m.version = some v → v < 2^32) ∧
  m.facts.length < 2^20 ∧ (∀ f ∈ m.facts, PredWF f) ∧
  m.rules.length < 2^20 ∧ (∀ r ∈ m.rules, RuleWF r) ∧
  m.checks.length < 2^20 ∧ (∀ c ∈ m.checks, CheckWF c) ∧
  m.policies.length < 2^20 ∧ (∀ p ∈ m.policies, PolicyWF p) ∧
  (encodePolicies m).length < 2^64

/-- Round trip of the snapshot bytes through the published schema. -/
theorem policies_roundtrip (m : PoliciesMsg) (h : PoliciesWF m) : decodePolicies (encodePolicies m) = some m := by
  -- the bounds on the numbers of symbols, facts, rules, checks, policies and queries and on the
  -- symbols' lengths are not needed: the total length `hl` covers them
  obtain ⟨_, _, hver, _, hfacts, _, hrules, _, hchecks, _, hpol, hl⟩ := h
  exact wire_decodePolicies_enc m hver hfacts hrules hchecks
    (fun p hp => ⟨(hpol p hp).1, (hpol p hp).2.2⟩) hl

/-- "Malformed bytes give an error, no panic" holds by typing: `decodePolicies` and
`resolveSnapshot` are total, `Option`-valued. The version gate is the one decision stated outright. -/
theorem load_rejects_other_versions (m : PoliciesMsg) (h : m.version ≠ some 3) : resolveSnapshot m = none := by
  exact sym_load_rejects_other_versions m h

/-! Non-vacuity: a snapshot whose one fresh symbol (`alice`; `user` and `query` are default symbols)
is shared by a fact, a check and two policies. -/
def fUser : DFact := { name := strBytes "user", args := [.atom (.str (strBytes "alice"))] }
def qUser : DRule := { head := { name := strBytes "query", terms := [] },
                       body := [{ name := strBytes "user", terms := [.const (.atom (.str (strBytes "alice")))] }], exprs := [] }
def snap0 : Snapshot := { facts := [fUser], rules := [], checks := [{ queries := [qUser] }], policies := [{ kind := .deny, queries := [qUser] }, { kind := .allow, queries := [qUser] }] }

example : resolveSnapshot (buildSnapshotMsg snap0) = some snap0 := by decide +kernel
example : (buildSnapshotMsg snap0).symbols = [strBytes "alice"] := by decide +kernel
example : decodePolicies (encodePolicies (buildSnapshotMsg snap0)) = some (buildSnapshotMsg snap0) := by decide +kernel

end Biscuit.C18
