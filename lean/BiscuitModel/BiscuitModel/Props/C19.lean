/-
Props/C19 — a token can be shared by concurrent goroutines.

Data-race freedom of the listed operations is, in the logic, a FOOTPRINT statement: no
operation writes into a backing array reachable from the shared token; every write goes
to memory the operation allocated or to a builder it owns. `frozen_implies_race_free` then says,
for abstract events and an owner map, that writes confined to their thread's own arrays cannot
conflict in any interleaving. PARTIAL with respect to the property: the
Go memory model, the scheduler and the completeness of the race detector are runtime
behaviour the model cannot exhibit; footprints of code not modelled here (protobuf-go,
participle) are covered by the race detector only.
-/
import BiscuitModel.Proofs.Heap
import BiscuitModel.Props.C08

namespace Biscuit.C19
open Biscuit.Heap

variable {α : Type}

/-- **Footprint (symbol tables).** With the repaired `Clone`, no operation writes into a
backing array of any live token: creating builders, filling them, looking up facts
(`GetBlockID` interns into a private copy) and deriving tokens write only fresh arrays or
the acting builder's own array. -/
theorem footprint_frozen_partial (grow : Nat → Nat) (hg : ∀ n, grow n > n) (pad : α) (st : State α)
    (h : Owned st) (op : Op α) :
    ∀ a ∈ (step true grow pad st op).2, a.write = true → a.arr ∉ st.tokens.map (·.arr) := by
  intro a ha _ hm
  obtain ⟨s, hs, he⟩ := List.mem_map.mp hm
  rcases (step_ok grow hg pad st h op).writes a ha with hf | ht
  · exact Nat.lt_irrefl _ (Nat.lt_of_lt_of_le (he ▸ (h.valid_token hs).1) hf)
  · exact h.token_ne_target hs op (he ▸ ht)

/-- D4's mechanism, pinned: a fact lookup on a token whose table has spare capacity writes
into the token's own backing array, at the first spare cell. -/
theorem getBlockID_writes_shared_pinned :
    (step false (fun n => 2 * n + 1) "_" Biscuit.C08.d4State (.getBlockID 0 "x")).2 = [{ arr := 0, idx := 3, write := true }] := by
  rfl

/-- **Footprint (signature payloads).** The repaired payload construction writes only a
fresh buffer … -/
theorem payloadFresh_writes_fresh (h : Heap α) (block : Slice) (extra : List α) :
    ∀ a ∈ (payloadFresh h block extra).2, a.arr = h.length := by
  intro a ha
  simp only [payloadFresh, List.mem_map] at ha
  obtain ⟨i, _, rfl⟩ := ha
  rfl

/-- … and leaves every existing array untouched. -/
theorem payloadFresh_keeps_heap (h : Heap α) (block : Slice) (extra : List α) (i : Nat) (hi : i < h.length) :
    (payloadFresh h block extra).1[i]? = h[i]? := by
  simp only [payloadFresh]
  exact List.getElem?_append_left hi

/-- D13, pinned: `append(block.Block[:], alg...)` on stored block bytes with spare capacity
writes into the stored array (here: 2 bytes in an array of capacity 4, 2 bytes appended). -/
theorem verify_writes_shared_pinned :
    (payloadPinned (fun n => 2 * n + 1) (0 : Nat) [[7, 8, 0, 0]] { arr := 0, len := 2 } [1, 2]).2 =
      [{ arr := 0, idx := 2, write := true }, { arr := 0, idx := 3, write := true }] := by
  rfl

/-- **Frozen implies race-free.** If every write of every thread goes to an array private
to that thread, and no thread touches another thread's private arrays, then no two
accesses of any interleaving conflict — for any number of threads and any schedule.
`priv` maps an array to the thread that owns it; the events are abstract: the write logs
of `step` are not turned into `Event`s here. -/
theorem frozen_implies_race_free (priv : Nat → Option Nat) (evs : List Event)
    (hw : ∀ e ∈ evs, e.write = true → priv e.arr = some e.thread)
    (hp : ∀ e ∈ evs, ∀ t, priv e.arr = some t → e.thread = t) :
    ∀ a ∈ evs, ∀ b ∈ evs, ¬ Conflict a b := by
  intro a ha b hb hc
  obtain ⟨hne, harr, _, hwr⟩ := hc
  rcases hwr with hwr | hwr
  · have h1 := hw a ha hwr
    rw [harr] at h1
    exact hne (hp b hb _ h1).symm
  · have h1 := hw b hb hwr
    rw [← harr] at h1
    exact hne (hp a ha _ h1)

/-- …and each goroutine obtains its solo result: what a thread reads from the shared
token is what it would read running alone, because no step of any other thread changes it
(`C08.family_frame_history` read along the interleaving). -/
theorem shared_reads_stable (grow : Nat → Nat) (hg : ∀ n, grow n > n) (pad : α) (st : State α)
    (h : Owned st) (others : List (Op α)) (i : Nat) (s : Slice) (hs : st.tokens[i]? = some s) :
    read (run true grow pad st others).heap s = read st.heap s :=
  (Biscuit.C08.family_frame_history grow hg pad st h others i s hs).2

end Biscuit.C19
