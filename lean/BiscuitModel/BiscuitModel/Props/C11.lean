/-
Props/C11 — evaluation is bounded; no silent truncation; limits honoured.

Clauses (a) limit errors, (b) never success without a fixpoint, (c) options reach
every run, stated on `Model/Datalog.run` and `Model/Authorizer`. Clause (d) (no
goroutine blocked forever) is the protocol model of `Model/Chan`, in Props/C11d.
The wall-clock limit is outside this model.
-/
import BiscuitModel.Proofs.Authorizer

namespace Biscuit.C11
open Biscuit

variable {V E : Type} [DecidableEq V]

/-- `maxIterations = 0` is reported, not success. -/
theorem run_zero_iterations (ev : Bindings V → E → Outcome Bool) (mf : Nat) (P : List (Rule V E))
    (F : List (Fact V)) : run ev mf P 0 F = (F, some .limitIter) := by
  rfl

/-- (b) No success without a fixpoint (`C05.run_ok_is_fixpoint`). -/
theorem ok_is_fixpoint (ev : Bindings V → E → Outcome Bool) (mf mi : Nat) (P : List (Rule V E))
    (F W : List (Fact V)) (h : run ev mf P mi F = (W, none)) :
    ∃ new, stepAll ev W P [] = (new, none) ∧ ∀ f ∈ new, f ∈ W := by
  exact run_fixpoint ev mf P mi F W h

/-- (a) Success stays strictly below the fact limit (the code reports the limit as soon as
the count *reaches* `maxFacts`; the model follows the code). -/
theorem ok_below_fact_limit (ev : Bindings V → E → Outcome Bool) (mf mi : Nat) (P : List (Rule V E))
    (F W : List (Fact V)) (h : run ev mf P mi F = (W, none)) : W.length < mf := by
  exact run_ok_lt ev mf P mi F W h

/-- (a) The fact-limit error is raised only when the limit was really reached. -/
theorem fact_limit_sound (ev : Bindings V → E → Outcome Bool) (mf mi : Nat) (P : List (Rule V E))
    (F W : List (Fact V)) (h : run ev mf P mi F = (W, some .limitFacts)) : W.length ≥ mf := by
  -- cases of `run` as listed in Proofs/Datalog: only a reached fact limit (3) gives this error
  fun_induction run ev mf P mi F generalizing W
  -- case 2: the rule loop never reports a limit (`RunErr.FromEval` of a limit is `False`)
  case case2 hs => cases (Prod.mk.inj h).2; exact (stepAll_err_from ev _ P [] _ _ hs).elim
  case case3 hge => obtain ⟨rfl, _⟩ := Prod.mk.inj h; exact hge
  case case5 ih => exact ih W h
  all_goals cases (Prod.mk.inj h).2

/-- The world only grows during a run, whatever the outcome. -/
theorem run_monotone (ev : Bindings V → E → Outcome Bool) (mf mi : Nat) (P : List (Rule V E))
    (F W : List (Fact V)) (e : Option RunErr) (h : run ev mf P mi F = (W, e)) : ∀ f ∈ F, f ∈ W := by
  exact run_subset ev mf P mi F W e h

/-- One round of a run that does not stop: the fact count strictly grows, so a run of
`mi` rounds that ends with the iteration limit has derived at least `mi` new facts. -/
theorem iter_limit_means_growth (ev : Bindings V → E → Outcome Bool) (mf mi : Nat) (P : List (Rule V E))
    (F W : List (Fact V)) (h : run ev mf P mi F = (W, some .limitIter)) : W.length ≥ F.length + mi := by
  fun_induction run ev mf P mi F generalizing W
  case case1 => obtain ⟨rfl, _⟩ := Prod.mk.inj h; exact Nat.le_refl _
  case case2 hs => cases (Prod.mk.inj h).2; exact (stepAll_err_from ev _ P [] _ _ hs).elim
  case case5 n F₀ new _ F₁ _ _ ih =>
    have := ih W h
    have : F₀.length ≤ F₁.length := (insertAll_prefix new F₀).length_le
    omega
  all_goals cases (Prod.mk.inj h).2

/-- (a)+(b) for authorization: `Authorize` succeeds only if every run it performed —
the authority-level run and one per later block — completed without any error, in
particular without hitting a limit. -/
theorem authorize_ok_runs_completed (cfg : EvalCfg) (tok : Token) (s : AuthState)
    (h : (authorize cfg tok s).2 = .ok) :
    (∃ w ap, authorityPhase cfg tok.authority s = (w, .ok ap) ∧
      ∀ b ∈ tok.blocks,
        (runWorld cfg s.limits { facts := insertAll w.facts b.facts, rules := b.rules }).2 = none) := by
  rw [authorize, authorizeWith_snd] at h
  rcases hap : authorityPhase cfg tok.authority s with ⟨w, e | ap⟩ <;> rw [hap] at h
  · cases h
  · exact ⟨w, ap, rfl, blockPhase_ok_runs cfg s.limits w.facts tok.blocks 1 ap.failed []
      ((finish_eq_policyVerdict _ (some .allow) _).mp h).1⟩

/-- A limit (or any other run error) in the authority-level run is the verdict. -/
theorem authorize_fails_on_authority_limit (cfg : EvalCfg) (tok : Token) (s : AuthState)
    (w : World) (e : RunErr) (h : authorityPhase cfg tok.authority s = (w, .error e)) :
    (authorize cfg tok s).2 = .runError e := by
  rw [authorize, authorizeWith_snd, h]
  rfl

/-- (c) No operation of a history (adds, authorize, query, reset, save/load) changes the
limits, so every later state has those given at construction… -/
theorem limits_preserved (cfg : EvalCfg) (pinned : Bool) (toks : List Token) (st : SeqState) (op : AuthOp) :
    (stepOpSeq cfg pinned toks st op).1.auth.limits = st.auth.limits := by
  exact stepOpSeq_limits cfg pinned toks st op

theorem fresh_limits (lim : Limits) : (AuthState.fresh lim).limits = lim := by
  rfl

/-- …and they are what `Query` runs under: an error of the run under `s.limits` (a limit among
them) is what `Query` returns. -/
theorem query_uses_limits (cfg : EvalCfg) (s : AuthState) (q : DRule) (e : RunErr)
    (h : (runWorld cfg s.limits s.world).2 = some e) : (query cfg s q).2 = .error e := by
  rw [query_snd]
  generalize runWorld cfg s.limits s.world = r at h ⊢
  obtain ⟨w, o⟩ := r
  cases (h : o = some e)
  rfl

/-! Non-vacuity: `n($y) <- n($x), m($x, $y)` over the chain `n(0), m(0,1), m(1,2), m(2,3)` needs
four rounds and eight facts; one less of either hits the limit. -/

def cfg0 : EvalCfg := { rx := fun _ _ => none }
def n0 : DFact := { name := [110], args := [.atom (.int 0)] }
def succF (a b : Int) : DFact := { name := [109], args := [.atom (.int a), .atom (.int b)] }
def stepR : DRule := { head := { name := [110], terms := [.var [121]] },
                       body := [{ name := [110], terms := [.var [120]] }, { name := [109], terms := [.var [120], .var [121]] }],
                       exprs := [] }
def chain : List DFact := [n0, succF 0 1, succF 1 2, succF 2 3]

example : (run (evalBool cfg0) 1000 [stepR] 100 chain).2 = none := by decide
example : (run (evalBool cfg0) 1000 [stepR] 3 chain).2 = some .limitIter := by decide
example : (run (evalBool cfg0) 1000 [stepR] 4 chain).2 = none := by decide
example : (run (evalBool cfg0) 7 [stepR] 100 chain).2 = some .limitFacts := by decide
example : (run (evalBool cfg0) 8 [stepR] 100 chain).2 = none := by decide

end Biscuit.C11
