/-
Props/C16 — the root key identifier travels with the token and selects exactly one key.
-/
import BiscuitModel.Proofs.Token

namespace Biscuit.C16
open Biscuit Biscuit.Wire

/-- One derivation step keeps the identifier (attenuation, sealing, reload). -/
theorem derive_keeps_rootKeyId (S : SigScheme) (e e' : BiscuitMsg) (op : DeriveOp)
    (hid : ∀ i, e.rootKeyId = some i → i < 2^32)
    (h : derive true S e op = .ok e') : e'.rootKeyId = e.rootKeyId := by
  rcases op with ⟨block, rng⟩ | _ | _
  · obtain ⟨rng', ha⟩ := derive_append_ok_iff.1 h
    obtain ⟨_, _, _, _, _, rfl⟩ := appendEnvelopeWith_ok true S e block rng rng' e' ha
    rfl
  · obtain ⟨_, _, _, rfl⟩ := sealEnvelopeWith_ok true S e e' h
    rfl
  · rw [reload_some e e' (derive_reload_ok_iff.1 h)]
    exact normEnv_rootKeyId e hid

/-- **C16, first sentence.** For every creation identifier (absent, 0, 2^32-1, any) and
every derivation history, the derived token reports the identifier given at creation. -/
theorem rootKeyId_invariant (S : SigScheme) (e0 e : BiscuitMsg) (ops : List DeriveOp)
    (hid : ∀ i, e0.rootKeyId = some i → i < 2^32)
    (h : deriveAll true S e0 ops = .ok e) : e.rootKeyId = e0.rootKeyId :=
  deriveAll_invariant (P := fun e => e.rootKeyId = e0.rootKeyId)
    (fun e op e' hp hd => (derive_keeps_rootKeyId S e e' op (hp ▸ hid) hd).trans hp) rfl h

theorem build_reports_id (S : SigScheme) (rootSeed : Bytes) (id : Option Nat) (block : Bytes) (rng rng' : Rng)
    (e : BiscuitMsg) (h : buildEnvelope S rootSeed id block rng = .ok (e, rng')) : e.rootKeyId = id := by
  obtain ⟨_, _, rfl⟩ := buildEnvelope_ok S rootSeed id block rng rng' e h
  rfl

/-- D12: the pinned `Append` and `Seal` rebuild the envelope without the identifier. -/
theorem pinned_append_drops_id (S : SigScheme) (e e' : BiscuitMsg) (block : Bytes) (rng rng' : Rng)
    (h : appendEnvelopeWith false S e block rng = .ok (e', rng')) : e'.rootKeyId = none := by
  obtain ⟨_, _, _, _, _, rfl⟩ := appendEnvelopeWith_ok false S e block rng rng' e' h
  rfl

theorem pinned_seal_drops_id (S : SigScheme) (e e' : BiscuitMsg)
    (h : sealEnvelopeWith false S e = .ok e') : e'.rootKeyId = none := by
  obtain ⟨_, _, _, rfl⟩ := sealEnvelopeWith_ok false S e e' h
  rfl

/-- No identifier: the default key, or "no public key available". -/
theorem selectKey_none (keys : List (Nat × Bytes)) (d : Option Bytes) :
    selectKey none keys d =
      match d with
      | some k => if k.isEmpty then .error .noKey else .ok k
      | none => .error .noKey := by
  rfl

/-- With identifier `i`: a non-empty key registered under `i`; never the default, never a key
registered under another identifier. -/
theorem selectKey_some_ok (i : Nat) (keys : List (Nat × Bytes)) (d : Option Bytes) (k : Bytes)
    (h : selectKey (some i) keys d = .ok k) : (i, k) ∈ keys ∧ k ≠ [] := by
  simp only [selectKey] at h
  split at h
  · next kv hf =>
    split at h
    · cases h
    · next he =>
      cases h
      obtain ⟨a, b⟩ := kv
      cases beq_iff_eq.1 (List.find?_some (p := fun kv : Nat × Bytes => kv.1 == i) hf)
      exact ⟨List.mem_of_find?_eq_some hf, fun hnil => he (by rw [hnil]; rfl)⟩
  · cases h

theorem selectKey_some_absent (i : Nat) (keys : List (Nat × Bytes)) (d : Option Bytes)
    (h : ∀ kv ∈ keys, kv.1 ≠ i) : selectKey (some i) keys d = .error .noKey := by
  have : keys.find? (fun kv => kv.1 == i) = none :=
    List.find?_eq_none.2 fun kv hkv => by simpa using h kv hkv
  simp only [selectKey, this]

/-- The lookup result never depends on the default key when the token carries an identifier. -/
theorem selectKey_ignores_default (i : Nat) (keys : List (Nat × Bytes)) (d d' : Option Bytes) :
    selectKey (some i) keys d = selectKey (some i) keys d' := by
  rfl

/-- The chain is verified under exactly the selected key, and a missing key surfaces as
`noKey` before any signature is looked at. -/
theorem acceptWithKeys_uses_selected (S : SigScheme) (keys : List (Nat × Bytes)) (d : Option Bytes)
    (e : BiscuitMsg) (hs : sizeGates e = .ok ()) :
    acceptWithKeys S keys d e =
      match selectKey e.rootKeyId keys d with
      | .error r => .error r
      | .ok k => verifyChain S k e := by
  unfold acceptWithKeys
  rw [hs]
  cases selectKey e.rootKeyId keys d <;> rfl

/-! Non-vacuity: a map with two ids and a default. -/
def kA : Bytes := List.replicate 32 1
def kB : Bytes := List.replicate 32 2
def kD : Bytes := List.replicate 32 3
example : selectKey (some 7) [(1, kA), (7, kB)] (some kD) = .ok kB := by rfl
example : selectKey (some 9) [(1, kA), (7, kB)] (some kD) = .error .noKey := by rfl
example : selectKey none [(1, kA), (7, kB)] (some kD) = .ok kD := by rfl

/-- Entries registered under other identifiers have no influence on the lookup at all. -/
theorem selectKey_only_own_entries (i : Nat) (keys : List (Nat × Bytes)) (d : Option Bytes) :
    selectKey (some i) keys d = selectKey (some i) (keys.filter (fun kv => kv.1 == i)) d := by
  unfold selectKey
  have : (keys.filter (fun kv => kv.1 == i)).find? (fun kv => kv.1 == i) = keys.find? (fun kv => kv.1 == i) := by
    rw [List.find?_filter]; congr 1; funext a; cases (a.1 == i) <;> simp
  simp only [this]

private theorem unique_of_nodup (i : Nat) (k : Bytes) (keys : List (Nat × Bytes))
    (hn : (keys.map Prod.fst).Nodup) (hm : (i, k) ∈ keys) :
    keys.find? (fun kv => kv.1 == i) = some (i, k) := by
  obtain ⟨as, bs, rfl⟩ := List.append_of_mem hm
  rw [List.map_append, List.nodup_append] at hn
  refine List.find?_eq_some_iff_append.2 ⟨beq_self_eq_true i, as, bs, rfl, fun a ha => ?_⟩
  have : a.1 ≠ i := hn.2.2 a.1 (List.mem_map_of_mem ha) i List.mem_cons_self
  simpa using this

/-- Converse of `selectKey_some_ok` for a key *map* (one entry per identifier, as Go's
`map[uint32]ed25519.PublicKey`): the non-empty key registered under the token's identifier is the
one selected, whatever else the map and the default contain. -/
theorem selectKey_registered (i : Nat) (keys : List (Nat × Bytes)) (d : Option Bytes) (k : Bytes)
    (hmap : (keys.map Prod.fst).Nodup) (hreg : (i, k) ∈ keys) (hk : k ≠ []) :
    selectKey (some i) keys d = .ok k := by
  simp only [selectKey, unique_of_nodup i k keys hmap hreg]
  cases k with
  | nil => exact absurd rfl hk
  | cons => rfl

/-- After any derivation history the lookup selects the key it selects for the token as created. -/
theorem derived_selects_creation_key (S : SigScheme) (e0 e : BiscuitMsg) (ops : List DeriveOp)
    (hid : ∀ i, e0.rootKeyId = some i → i < 2^32)
    (h : deriveAll true S e0 ops = .ok e) (keys : List (Nat × Bytes)) (d : Option Bytes) :
    selectKey e.rootKeyId keys d = selectKey e0.rootKeyId keys d := by
  rw [rootKeyId_invariant S e0 e ops hid h]

/-- … and the derived token's chain is verified under exactly that key. -/
theorem derived_accept_under_creation_key (S : SigScheme) (e0 e : BiscuitMsg) (ops : List DeriveOp)
    (hid : ∀ i, e0.rootKeyId = some i → i < 2^32)
    (h : deriveAll true S e0 ops = .ok e) (keys : List (Nat × Bytes)) (d : Option Bytes)
    (hs : sizeGates e = .ok ()) :
    acceptWithKeys S keys d e =
      match selectKey e0.rootKeyId keys d with
      | .error r => .error r
      | .ok k => verifyChain S k e := by
  rw [acceptWithKeys_uses_selected S keys d e hs, derived_selects_creation_key S e0 e ops hid h]

example : selectKey (some 7) [(1, kA), (7, kB), (9, kD)] (some kD) = selectKey (some 7) [(7, kB)] none := by rfl

end Biscuit.C16
