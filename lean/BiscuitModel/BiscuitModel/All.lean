/-
All — imports every module of the library, so that `lake build BiscuitModel.All` checks that they load into ONE environment.
Lean generates some auxiliary declarations on demand (matcher congruence equations, `_sparseCasesOn` …); two modules that do not
import one another and both trigger the same one cannot be imported together, and the axiom audit of a property imports all its
Props modules together. Not imported by anything (the driver links against Model/ and Driver/ only).
-/
import BiscuitModel.Generated.Tables
import BiscuitModel.Model.Authorizer
import BiscuitModel.Model.Basic
import BiscuitModel.Model.BuilderAlias
import BiscuitModel.Model.Chan
import BiscuitModel.Model.Construct
import BiscuitModel.Model.Datalog
import BiscuitModel.Model.Expr
import BiscuitModel.Model.Grammar
import BiscuitModel.Model.Heap
import BiscuitModel.Model.Layout
import BiscuitModel.Model.Odometer
import BiscuitModel.Model.OdometerTie
import BiscuitModel.Model.Pipeline
import BiscuitModel.Model.Printer
import BiscuitModel.Model.Quote
import BiscuitModel.Model.Rename
import BiscuitModel.Model.Render
import BiscuitModel.Model.Spell
import BiscuitModel.Model.Symbols
import BiscuitModel.Model.Token
import BiscuitModel.Model.Unmarshal
import BiscuitModel.Model.Value
import BiscuitModel.Model.Wire
import BiscuitModel.Proofs.Authorizer
import BiscuitModel.Proofs.Chan
import BiscuitModel.Proofs.Construct
import BiscuitModel.Proofs.Content
import BiscuitModel.Proofs.Datalog
import BiscuitModel.Proofs.Decision
import BiscuitModel.Proofs.Expr
import BiscuitModel.Proofs.GateBuilder
import BiscuitModel.Proofs.Grammar
import BiscuitModel.Proofs.GrammarItems
import BiscuitModel.Proofs.Heap
import BiscuitModel.Proofs.LexRules
import BiscuitModel.Proofs.Lexer
import BiscuitModel.Proofs.LexerLayout
import BiscuitModel.Proofs.ListOption
import BiscuitModel.Proofs.Odometer
import BiscuitModel.Proofs.Perm
import BiscuitModel.Proofs.Pipeline
import BiscuitModel.Proofs.PrintDates
import BiscuitModel.Proofs.PrintText
import BiscuitModel.Proofs.Rename
import BiscuitModel.Proofs.Snapshot
import BiscuitModel.Proofs.SnapshotGate
import BiscuitModel.Proofs.Symbols
import BiscuitModel.Proofs.TextRoundtrip
import BiscuitModel.Proofs.Token
import BiscuitModel.Proofs.WireAttenuation
import BiscuitModel.Proofs.WireEnvelope
import BiscuitModel.Proofs.WireFields
import BiscuitModel.Proofs.WireRoundtrip
import BiscuitModel.Props.C01
import BiscuitModel.Props.C02
import BiscuitModel.Props.C02Gate
import BiscuitModel.Props.C02Wire
import BiscuitModel.Props.C03
import BiscuitModel.Props.C03Heap
import BiscuitModel.Props.C04
import BiscuitModel.Props.C04Content
import BiscuitModel.Props.C05
import BiscuitModel.Props.C05Odometer
import BiscuitModel.Props.C06
import BiscuitModel.Props.C07
import BiscuitModel.Props.C08
import BiscuitModel.Props.C08Builder
import BiscuitModel.Props.C09
import BiscuitModel.Props.C10
import BiscuitModel.Props.C11
import BiscuitModel.Props.C11d
import BiscuitModel.Props.C12
import BiscuitModel.Props.C12Canon
import BiscuitModel.Props.C12Rename
import BiscuitModel.Props.C12Sets
import BiscuitModel.Props.C13
import BiscuitModel.Props.C14
import BiscuitModel.Props.C14Items
import BiscuitModel.Props.C14Layout
import BiscuitModel.Props.C14Lexer
import BiscuitModel.Props.C14Neg
import BiscuitModel.Props.C14Text
import BiscuitModel.Props.C15
import BiscuitModel.Props.C15Text
import BiscuitModel.Props.C16
import BiscuitModel.Props.C17
import BiscuitModel.Props.C18
import BiscuitModel.Props.C18Gate
import BiscuitModel.Props.C19
import BiscuitModel.Props.C20
import BiscuitModel.Props.Tables
import BiscuitModel.Props.TablesGrammar
import BiscuitModel.Props.TablesPanicSites
import BiscuitModel.Spec.Datalog
import BiscuitModel.Spec.Decision
import BiscuitModel.Spec.WireWF
